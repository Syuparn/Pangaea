/- C08 — "evaluated exactly once, in source order": the evaluator's loops over elements, keyword arguments,
   interpolated parts, object pairs and arguments are the obvious sequential specifications (inductive judgments
   without fuel, both directions), and a call / an infix operator / a range literal that ended went through its parts
   in the order written (`call_order`, `infix_order`, `range_order`, per fuel). -/
import Pangaea.Theorems.C07Any
namespace Pangaea.C08
open Pangaea.Core Pangaea.C07

/-- the specification: elements are evaluated one after the other, left to right, each exactly once, the state
    threaded through; `*e` contributes the elements of the array `e` evaluates to -/
inductive SeqElems (env : Nat) : List Expr → St → List Val → St → Prop
  | nil (s : St) : SeqElems env [] s [] s
  | plain {e : Expr} {rest : List Expr} {s s1 s2 : St} {v : Val} {vs : List Val} :
      Plain e → GivesE e env s v s1 → SeqElems env rest s1 vs s2 → SeqElems env (e :: rest) s (v :: vs) s2
  | unpacked {e : Expr} {rest : List Expr} {s s1 s2 : St} {xs vs : List Val} :
      GivesE e env s (.arr xs) s1 → SeqElems env rest s1 vs s2 → SeqElems env (.pref "*" e :: rest) s (xs ++ vs) s2

/-- the evaluator meets the specification … -/
theorem seq_of_gives : ∀ (es : List Expr) (fuel env : Nat) (s s' : St) (vs : List Val),
    (∀ e ∈ es, Plain e ∨ ∃ e', e = .pref "*" e') →
    evalElems fuel es env s = (.ok vs, s') → SeqElems env es s vs s'
  | es, 0, env, s, s', vs, _, h => by simp [evalElems, outOfFuel] at h
  | [], fuel + 1, env, s, s', vs, _, h => by
    rw [evalElems] at h
    cases h
    exact .nil s
  | e :: rest, fuel + 1, env, s, s', vs, hall, h => by
    have hrest : ∀ x ∈ rest, Plain x ∨ ∃ e', x = .pref "*" e' := fun x hx => hall x (List.mem_cons_of_mem _ hx)
    rcases hall e List.mem_cons_self with hp | ⟨e', rfl⟩
    · rw [evalElems_plain hp] at h
      obtain ⟨v, s1, hv, h⟩ := bindM_eq_ok.1 h
      obtain ⟨vs', s2, hvs, h⟩ := bindM_eq_ok.1 h
      cases h
      exact .plain hp ⟨fuel, hv⟩ (seq_of_gives rest fuel env s1 _ vs' hrest hvs)
    · rw [evalElems] at h
      obtain ⟨v, s1, hv, h⟩ := bindM_eq_ok.1 h
      cases v with
      | arr xs =>
        obtain ⟨vs', s2, hvs, h⟩ := bindM_eq_ok.1 h
        cases h
        exact .unpacked ⟨fuel, hv⟩ (seq_of_gives rest fuel env s1 _ vs' hrest hvs)
      | _ => cases h

/-- … and everything the specification allows is what the evaluator does -/
theorem gives_of_seq {env : Nat} {es : List Expr} {s s' : St} {vs : List Val} (h : SeqElems env es s vs s') :
    GivesElems es env s vs s' := by
  refine Ev.exists_fuel ?_
  induction h with
  | nil s => exact .of_succ (by simp only [evalElems]; exact .pure _ _)
  | plain hp hv _ ih => exact .of_succ (by simp only [evalElems_plain hp]; exact hv.ev.bind (ih.bind (.pure _ _)))
  | unpacked hv _ ih => exact .of_succ (by simp only [evalElems]; exact hv.ev.bind (ih.bind (.pure _ _)))

/-- **Elements are evaluated exactly once, left to right.** An array literal evaluates to `vs` ending in state `s'`
    exactly when evaluating its elements one after the other in the order written does. -/
theorem elems_left_to_right (es : List Expr) (env : Nat) (s s' : St) (vs : List Val)
    (hall : ∀ e ∈ es, Plain e ∨ ∃ e', e = .pref "*" e') :
    GivesE (.arr es) env s (.arr vs) s' ↔ SeqElems env es s vs s' := by
  constructor
  · rintro ⟨f, hf⟩
    cases f with
    | zero => simp [evalE, outOfFuel] at hf
    | succ f =>
      rw [evalE] at hf
      obtain ⟨vs', s1, hvs, h⟩ := bindM_eq_ok.1 hf
      cases h
      exact seq_of_gives es f env s _ _ hall hvs
  · intro h
    exact Ev.exists_fuel (.of_succ (by simp only [evalE]; exact ((mono_evalElems es env).ev (gives_of_seq h)).bind (.pure _ _)))


/-- **Order of a call.** Whenever a property call ends with a value or an error OF THE CALLEE, its evaluation went
    through these stages in this order, each starting in the state the previous one ended in: the receiver, the
    chain argument, the positional arguments (with `*` / `**` unpacked in place), the keyword arguments, and only
    then the call itself. -/
theorem call_order (fuel : Nat) (recv : Option Expr) (m : Main) (a : Add) (ca : Option Expr) (prop : String)
    (args : List Expr) (kws : List KwE) (env : Nat) (s s' : St) (v : Val)
    (h : evalE (fuel + 1) (.propCall recv m a ca prop args kws) env s = (.ok v, s')) :
    ∃ vr s0 vc s1 vargs unpacked s2 vkws s3,
      evalRecv fuel recv env s = (.ok vr, s0) ∧
      evalOpt fuel ca env s0 = (.ok vc, s1) ∧
      evalArgs fuel args env [] [] s1 = (.ok (vargs, unpacked), s2) ∧
      evalKws fuel kws env [] s2 = (.ok vkws, s3) ∧
      propChain fuel m a vr vc prop vargs (addAllFirst vkws unpacked) env s3 = (.ok v, s') := by
  rw [evalE] at h
  obtain ⟨vr, s0, h0, h⟩ := bindM_eq_ok.1 h
  obtain ⟨vc, s1, h1, h⟩ := bindM_eq_ok.1 h
  obtain ⟨⟨vargs, unpacked⟩, s2, h2, h⟩ := bindM_eq_ok.1 h
  obtain ⟨vkws, s3, h3, h⟩ := bindM_eq_ok.1 h
  exact ⟨vr, s0, vc, s1, vargs, unpacked, s2, vkws, s3, h0, h1, h2, h3, h⟩


/-- **Order of an infix operator.** Whenever `l op r` (op not `&&` / `||`) ends with a value, the left operand was
    evaluated first, the right operand in the state the left one left, and only then the operator's method was
    called - each exactly once. -/
theorem infix_order (fuel : Nat) (op : String) (l r : Expr) (env : Nat) (s s' : St) (v : Val)
    (hop : (op == "||" || op == "&&") = false)
    (h : evalE (fuel + 1) (.infix op l r) env s = (.ok v, s')) :
    ∃ vl s1 vr s2,
      evalE fuel l env s = (.ok vl, s1) ∧ evalE fuel r env s1 = (.ok vr, s2) ∧
      callPropQuiet fuel vl op [vr] env s2 = (.ok v, s') := by
  rw [evalE] at h
  simp only [hop, Bool.false_eq_true, ↓reduceIte] at h
  obtain ⟨vl, s1, h0, h⟩ := bindM_eq_ok.1 h
  obtain ⟨vr, s2, h1, h⟩ := bindM_eq_ok.1 h
  exact ⟨vl, s1, vr, s2, h0, h1, h⟩

/-- **Order of a range literal.** start, then stop, then step - each bound that is written evaluated once, each in
    the state the previous one left. -/
theorem range_order (fuel : Nat) (a b c : Option Expr) (env : Nat) (s s' : St) (v : Val)
    (h : evalE (fuel + 1) (.range a b c) env s = (.ok v, s')) :
    ∃ va s1 vb s2 vc,
      evalOpt fuel a env s = (.ok va, s1) ∧ evalOpt fuel b env s1 = (.ok vb, s2) ∧ evalOpt fuel c env s2 = (.ok vc, s') ∧
      v = .range va vb vc := by
  rw [evalE] at h
  obtain ⟨va, s1, h0, h⟩ := bindM_eq_ok.1 h
  obtain ⟨vb, s2, h1, h⟩ := bindM_eq_ok.1 h
  obtain ⟨vc, s3, h2, h⟩ := bindM_eq_ok.1 h
  cases h
  exact ⟨va, s1, vb, s2, vc, h0, h1, h2, rfl⟩


/-- keyword arguments: evaluated one after the other in the order written, each exactly once; a name that occurs
    again does not replace the value already bound (`addFirst`: the first occurrence wins) -/
inductive SeqKws (env : Nat) : List KwE → List (String × Val) → St → List (String × Val) → St → Prop
  | nil (acc : List (String × Val)) (s : St) : SeqKws env [] acc s acc s
  | cons {name : String} {e : Expr} {rest : List KwE} {acc res : List (String × Val)} {s s1 s2 : St} {v : Val} :
      GivesE e env s v s1 → SeqKws env rest (addFirst acc name v) s1 res s2 → SeqKws env (.mk name e :: rest) acc s res s2

theorem kws_of_seq {env : Nat} {kws : List KwE} {acc res : List (String × Val)} {s s' : St} (h : SeqKws env kws acc s res s') :
    ∃ fuel, evalKws fuel kws env acc s = (.ok res, s') := by
  refine Ev.exists_fuel ?_
  induction h with
  | nil acc s => exact .of_succ (by simp only [evalKws]; exact .pure _ _)
  | cons hv _ ih => exact .of_succ (by simp only [evalKws]; exact hv.ev.bind ih)

theorem seq_of_kws {env : Nat} : ∀ (kws : List KwE) (f : Nat) (acc res : List (String × Val)) (s s' : St),
    evalKws f kws env acc s = (.ok res, s') → SeqKws env kws acc s res s'
  | _, 0, _, _, _, _, h => by simp [evalKws, outOfFuel] at h
  | [], f + 1, _, _, _, _, h => by rw [evalKws] at h; cases h; exact .nil _ _
  | .mk name e :: rest, f + 1, acc, res, s, s', h => by
    rw [evalKws] at h
    obtain ⟨v, s1, hv, h⟩ := bindM_eq_ok.1 h
    exact .cons ⟨f, hv⟩ (seq_of_kws rest f _ res s1 s' h)

/-- **Keyword arguments are evaluated in the order written, each once, first occurrence wins.** -/
theorem kwargs_in_order_written (kws : List KwE) (env : Nat) (acc res : List (String × Val)) (s s' : St) :
    (∃ fuel, evalKws fuel kws env acc s = (.ok res, s')) ↔ SeqKws env kws acc s res s' :=
  ⟨fun ⟨f, hf⟩ => seq_of_kws kws f acc res s s' hf, kws_of_seq⟩

/-- a duplicated keyword keeps the value written first: once a name is bound, a later occurrence changes nothing -/
theorem duplicate_keyword_first_wins (acc : List (String × Val)) (name : String) (v w : Val)
    (h : acc.lookup name = some v) : addFirst acc name w = acc := by
  unfold addFirst; simp [h]


/-- the interpolated parts of a string: one after the other in source order, each evaluated once and converted with
    its `S`, the text accumulated left to right -/
inductive SeqPieces (env : Nat) : List PieceE → String → St → String → St → Prop
  | nil (acc : String) (s : St) : SeqPieces env [] acc s acc s
  | cons {str : String} {e : Expr} {rest : List PieceE} {acc res sv : String} {s s1 s2 s3 : St} {v : Val} :
      GivesE e env s v s1 → (∃ fuel, callPropQuiet fuel v "S" [] env s1 = (.ok (.str sv), s2)) →
      SeqPieces env rest (acc ++ str ++ sv) s2 res s3 → SeqPieces env (.mk str e :: rest) acc s res s3

theorem pieces_of_seq {env : Nat} {ps : List PieceE} {acc res : String} {s s' : St} (h : SeqPieces env ps acc s res s') :
    ∃ fuel, evalPieces fuel ps env acc s = (.ok res, s') := by
  refine Ev.exists_fuel ?_
  induction h with
  | nil acc s => exact .of_succ (by simp only [evalPieces]; exact .pure _ _)
  | cons hv hs _ ih =>
    exact .of_succ (by simp only [evalPieces]; exact hv.ev.bind (((mono_callPropQuiet _ _ _ env).ev hs).bind ih))

theorem seq_of_pieces {env : Nat} : ∀ (ps : List PieceE) (f : Nat) (acc res : String) (s s' : St),
    evalPieces f ps env acc s = (.ok res, s') → SeqPieces env ps acc s res s'
  | _, 0, _, _, _, _, h => by simp [evalPieces, outOfFuel] at h
  | [], f + 1, _, _, _, _, h => by rw [evalPieces] at h; cases h; exact .nil _ _
  | .mk str e :: rest, f + 1, acc, res, s, s', h => by
    rw [evalPieces] at h
    obtain ⟨v, s1, hv, h⟩ := bindM_eq_ok.1 h
    obtain ⟨sv, s2, hs, h⟩ := bindM_eq_ok.1 h
    cases sv with
    | str t => exact .cons ⟨f, hv⟩ ⟨f, hs⟩ (seq_of_pieces rest f _ res s2 s' h)
    | _ => cases h

/-- **The interpolated parts of a string are evaluated once each, in source order.** -/
theorem embedded_parts_in_source_order (ps : List PieceE) (env : Nat) (acc res : String) (s s' : St) :
    (∃ fuel, evalPieces fuel ps env acc s = (.ok res, s')) ↔ SeqPieces env ps acc s res s' :=
  ⟨fun ⟨f, hf⟩ => seq_of_pieces ps f acc res s s' hf, pieces_of_seq⟩


/-- the pairs of an object literal: one after the other in source order; within a pair with a computed key the
    value is evaluated before the key (as the implementation does); a name that occurs again keeps the first value -/
inductive SeqPairs (env : Nat) : List PairE → List (String × Val) → St → List (String × Val) → St → Prop
  | nil (acc : List (String × Val)) (s : St) : SeqPairs env [] acc s acc s
  | named {k : String} {e : Expr} {rest : List PairE} {acc res : List (String × Val)} {s s1 s2 : St} {v : Val} :
      GivesE e env s v s1 → SeqPairs env rest (addFirst acc k v) s1 res s2 → SeqPairs env (.named k e :: rest) acc s res s2
  | pinned {k ks : String} {e : Expr} {rest : List PairE} {acc res : List (String × Val)} {s s1 s2 s3 : St} {v : Val} :
      GivesE e env s v s1 → GivesE (.ident k) env s1 (.str ks) s2 → SeqPairs env rest (addFirst acc ks v) s2 res s3 →
      SeqPairs env (.pinned k e :: rest) acc s res s3
  | computed {ke e : Expr} {ks : String} {rest : List PairE} {acc res : List (String × Val)} {s s1 s2 s3 : St} {v : Val} :
      GivesE e env s v s1 → GivesE ke env s1 (.str ks) s2 → SeqPairs env rest (addFirst acc ks v) s2 res s3 →
      SeqPairs env (.computed ke e :: rest) acc s res s3

theorem pairs_of_seq {env : Nat} {ps : List PairE} {acc res : List (String × Val)} {s s' : St} (h : SeqPairs env ps acc s res s') :
    ∃ fuel, evalPairs fuel ps env acc s = (.ok res, s') := by
  refine Ev.exists_fuel ?_
  induction h with
  | nil acc s => exact .of_succ (by simp only [evalPairs]; exact .pure _ _)
  | named hv _ ih => exact .of_succ (by simp only [evalPairs]; exact hv.ev.bind ih)
  | pinned hv hk _ ih => exact .of_succ (by simp only [evalPairs]; exact hv.ev.bind (hk.ev.bind ih))
  | computed hv hk _ ih => exact .of_succ (by simp only [evalPairs]; exact hv.ev.bind (hk.ev.bind ih))

theorem seq_of_pairs {env : Nat} : ∀ (ps : List PairE) (f : Nat) (acc res : List (String × Val)) (s s' : St),
    evalPairs f ps env acc s = (.ok res, s') → SeqPairs env ps acc s res s'
  | _, 0, _, _, _, _, h => by simp [evalPairs, outOfFuel] at h
  | [], f + 1, _, _, _, _, h => by rw [evalPairs] at h; cases h; exact .nil _ _
  | .named k e :: rest, f + 1, acc, res, s, s', h => by
    rw [evalPairs] at h
    obtain ⟨v, s1, hv, h⟩ := bindM_eq_ok.1 h
    exact .named ⟨f, hv⟩ (seq_of_pairs rest f _ res s1 s' h)
  | .pinned k e :: rest, f + 1, acc, res, s, s', h => by
    rw [evalPairs] at h
    obtain ⟨v, s1, hv, h⟩ := bindM_eq_ok.1 h
    obtain ⟨kv, s2, hk, h⟩ := bindM_eq_ok.1 h
    cases kv with
    | str ks => exact .pinned ⟨f, hv⟩ ⟨f, hk⟩ (seq_of_pairs rest f _ res s2 s' h)
    | _ => cases h
  | .computed ke e :: rest, f + 1, acc, res, s, s', h => by
    rw [evalPairs] at h
    obtain ⟨v, s1, hv, h⟩ := bindM_eq_ok.1 h
    obtain ⟨kv, s2, hk, h⟩ := bindM_eq_ok.1 h
    cases kv with
    | str ks => exact .computed ⟨f, hv⟩ ⟨f, hk⟩ (seq_of_pairs rest f _ res s2 s' h)
    | _ => cases h

/-- **The pairs of an object literal are evaluated once each, in source order; the first value given for a name is kept.** -/
theorem pairs_in_source_order (ps : List PairE) (env : Nat) (acc res : List (String × Val)) (s s' : St) :
    (∃ fuel, evalPairs fuel ps env acc s = (.ok res, s')) ↔ SeqPairs env ps acc s res s' :=
  ⟨fun ⟨f, hf⟩ => seq_of_pairs ps f acc res s s' hf, pairs_of_seq⟩


/-- **Positional arguments are evaluated once each, in the order written**, `*e` contributing the elements of its
    array and `**e` the pairs of its object (first occurrence of a name wins): whenever the sequential specification
    `C07.ArgsOk` holds, `evalArgs` computes exactly its result and final state. -/
theorem args_in_order_written {env : Nat} {es : List Expr} {acc acc2 : List Val} {kw kw2 : List (String × Val)} {s s2 : St}
    (h : ArgsOk env es acc kw s acc2 kw2 s2) : ∃ fuel, evalArgs fuel es env acc kw s = (.ok (acc2, kw2), s2) := by
  have := h.then (rest := []) (.of_succ (by simp only [evalArgs]; exact .pure _ _))
  rw [List.append_nil] at this
  exact this.exists_fuel

end Pangaea.C08
