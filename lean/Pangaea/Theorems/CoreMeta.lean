/- Fuel monotonicity as the properties state it (C03, C07, C08, C14 are about the reference evaluator with some fuel):
   it is a well-defined partial function of its input - more fuel never changes an answer (Lemmas/Fuel.lean). -/
import Pangaea.Lemmas.Fuel
namespace Pangaea.CoreMeta
open Pangaea.Core

/-- **Fuel monotonicity.** If evaluating `e` with some fuel ends without running out of fuel, then with any larger
    fuel it ends with exactly the same result in exactly the same state. -/
theorem evalE_fuel_mono (fuel k : Nat) (e : Expr) (env : Nat) (s s' : St) (r : R Val)
    (h : evalE fuel e env s = (r, s')) (hr : r.notFuel) : evalE (fuel + k) e env s = (r, s') :=
  (mono_evalE e env).le (Nat.le_add_right fuel k) s r s' h hr

theorem program_fuel_mono (fuel k : Nat) (prog : List Stmt) (env : Nat) (s s' : St) (r : R Val)
    (h : evalStmts fuel prog env s = (r, s')) (hr : r.notFuel) : evalStmts (fuel + k) prog env s = (r, s') :=
  (mono_evalStmts prog env).le (Nat.le_add_right fuel k) s r s' h hr

theorem call_fuel_mono (fuel k : Nat) (f : Val) (args : List Val) (kw : List (String × Val)) (s s' : St) (r : R Val)
    (h : callVal fuel f args kw s = (r, s')) (hr : r.notFuel) : callVal (fuel + k) f args kw s = (r, s') :=
  (mono_callVal f args kw).le (Nat.le_add_right fuel k) s r s' h hr

end Pangaea.CoreMeta
