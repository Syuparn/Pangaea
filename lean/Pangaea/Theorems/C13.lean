/- C13 — try/Either captures exactly the error that would have been raised.
   The theorems hold for every start value and every list of steps (arbitrary functions). The tie to the
   implementation adds the known findings: a step that is a property call reaches `fmap` only through the
   Wrappable proxy, which indexes the property and calls the result. -/
import Pangaea.Props.Either
namespace Pangaea.C13
open Pangaea.Either

variable {V : Type}

theorem foldl_fmap_err (e : ErrV) (steps : List (V → Outcome V)) : steps.foldl fmap (E.err e) = E.err e := by
  induction steps with
  | nil => rfl
  | cons f fs ih => exact ih

/-- **Commutation.** A wrapped chain holds exactly the outcome of the unwrapped chain: its value if every
    step succeeds, else the kind and message of the first error. -/
theorem try_commutes (v : V) (steps : List (V → Outcome V)) : runTry v steps = ofOutcome (runPlain v steps) := by
  induction steps generalizing v with
  | nil => rfl
  | cons f fs ih =>
    show fs.foldl fmap (fmap (.val v) f) = ofOutcome (runPlain v (f :: fs))
    rw [fmap, runPlain]
    cases f v with
    | val r => exact ih r
    | err e => exact foldl_fmap_err e fs

theorem runPlain_append (v : V) (pre post : List (V → Outcome V)) :
    runPlain v (pre ++ post) =
      match runPlain v pre with
      | .val w => runPlain w post
      | .err e => .err e := by
  induction pre generalizing v with
  | nil => rfl
  | cons g gs ih =>
    rw [List.cons_append, runPlain, runPlain]
    cases g v with
    | val r => exact ih r
    | err e => rfl

/-- **Skip after failure.** Once a step has failed, the chain's result does not depend on the later steps
    (they are not called). -/
theorem skip_after_failure (v : V) (pre : List (V → Outcome V)) (f : V → Outcome V) (post1 post2 : List (V → Outcome V))
    (w : V) (e : ErrV) (hpre : runPlain v pre = .val w) (hf : f w = .err e) :
    runTry v (pre ++ f :: post1) = .err e ∧ runTry v (pre ++ f :: post1) = runTry v (pre ++ f :: post2) := by
  have key : ∀ post, runTry v (pre ++ f :: post) = .err e := fun post => by
    rw [try_commutes, runPlain_append, hpre]
    show ofOutcome (runPlain w (f :: post)) = _
    rw [runPlain, hf]; rfl
  exact ⟨key post1, (key post1).trans (key post2).symm⟩

/-- **A chain with no failure** yields the value of the unwrapped calls. -/
theorem no_failure (v w : V) (steps : List (V → Outcome V)) (h : runPlain v steps = .val w) :
    runTry v steps = .val w := by
  rw [try_commutes, h]; rfl

/-- **Accessors report the single outcome consistently.** -/
theorem accessors_val (v : V) (nil d : V) (isNil : V → Bool) (wrapErr : ErrV → V) (mkArr : V → V → V) (k : String) (f : ErrV → V) :
    (E.val v).A nil wrapErr mkArr = mkArr v nil ∧ (E.val v).valOr nil = v ∧ (E.val v).errOr nil wrapErr = nil ∧
    (E.val v).isVal isNil = !isNil v ∧ (E.val v).isErr = false ∧ (E.val v).orElse d = v ∧
    (E.val v).abandon = .val v ∧ (E.val v).catch k f = .val v :=
  ⟨rfl, rfl, rfl, rfl, rfl, rfl, rfl, rfl⟩

theorem accessors_err (e : ErrV) (nil d : V) (isNil : V → Bool) (wrapErr : ErrV → V) (mkArr : V → V → V) (k : String) (f : ErrV → V) :
    (E.err e : E V).A nil wrapErr mkArr = mkArr nil (wrapErr e) ∧ (E.err e : E V).valOr nil = nil ∧
    (E.err e : E V).errOr nil wrapErr = wrapErr e ∧ (E.err e : E V).isVal isNil = false ∧ (E.err e : E V).isErr = true ∧
    (E.err e : E V).orElse d = d ∧ (E.err e : E V).abandon = .err e ∧
    ((E.err e : E V).catch k f = if e.kind = k then .val (f e) else .err e) :=
  ⟨rfl, rfl, rfl, rfl, rfl, rfl, rfl, rfl⟩

theorem abandon_is_plain (v : V) (steps : List (V → Outcome V)) : (runTry v steps).abandon = runPlain v steps := by
  rw [try_commutes]; cases runPlain v steps <;> rfl

-- `3.try.{|x| x * 2}.{|x| x // 0}.{|x| x + 1}`
def mul2 : Int → Outcome Int := fun x => .val (x * 2)
def div0 : Int → Outcome Int := fun _ => .err ⟨"ZeroDivisionErr", "cannot be divided by 0"⟩
def add1 : Int → Outcome Int := fun x => .val (x + 1)
example : (match runTry (3 : Int) [mul2, div0, add1] with | .err e => e.kind | .val _ => "") = "ZeroDivisionErr" := by decide
example : (match runTry (3 : Int) [mul2, add1] with | .val v => v | .err _ => 0) = 7 := by decide

end Pangaea.C13
