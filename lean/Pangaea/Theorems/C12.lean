/- C12 — one truthiness rule governs if/else, guards, `!`, `&&` and `||`, with short-circuiting. -/
import Pangaea.Props.Truthy
namespace Pangaea.C12
open Pangaea.Truthy

/-- **One rule.** For every value (the bool singletons answer `B` with themselves), the three
    implementations agree: a value is truthy exactly when `B` yields `true`; `||` short-cuts exactly on
    truthy, `&&` exactly on falsy, `!` is the negation. -/
theorem one_rule (v : CondVal) (h : WF v) :
    isTruthy v = (v.b == .tru) ∧ canShortCut .or v = isTruthy v ∧
    canShortCut .and v = !isTruthy v ∧ notV v = !isTruthy v := by
  have h1 : isTruthy v = (v.b == .tru) := by
    unfold isTruthy
    cases hg : v.goBool with
    | none => rfl
    | some x => rw [h x hg]; cases x <;> rfl
  -- the other three are functions of `v.b == .tru` by definition
  refine ⟨h1, ?_, ?_, ?_⟩ <;> rw [h1]
  · rfl
  · rfl
  · unfold notV; cases v.b == .tru <;> rfl

variable {σ V : Type}

/-- **Exactly one branch.** With a truthy condition the result is the `then` branch run once after the
    condition, whatever the `else` branch is (it is not evaluated); symmetrically for a falsy one. -/
theorem if_then_only (view : V → CondVal) (nil : V) (cond thn : σ → R V × σ) (e1 e2 : Option (σ → R V × σ))
    (s s1 : σ) (c : V) (hc : cond s = (.val c, s1)) (ht : isTruthy (view c) = true) :
    evalIf view nil cond thn e1 s = thn s1 ∧ evalIf view nil cond thn e1 s = evalIf view nil cond thn e2 s := by
  simp [evalIf, hc, ht]

theorem if_else_only (view : V → CondVal) (nil : V) (cond t1 t2 els : σ → R V × σ)
    (s s1 : σ) (c : V) (hc : cond s = (.val c, s1)) (hf : isTruthy (view c) = false) :
    evalIf view nil cond t1 (some els) s = els s1 ∧
    evalIf view nil cond t1 (some els) s = evalIf view nil cond t2 (some els) s ∧
    evalIf view nil cond t1 none s = (.val nil, s1) := by
  simp [evalIf, hc, hf]

/-- **Short-circuit.** `l && r` / `l || r`: when the left operand decides, the result is that operand
    itself and the right operand is not evaluated (the result does not depend on it); otherwise the result
    is the right operand evaluated once in the state the left operand left. -/
theorem shortcut_decided (view : V → CondVal) (op : SC) (left r1 r2 : σ → R V × σ) (s s1 : σ) (l : V)
    (hl : left s = (.val l, s1)) (hd : canShortCut op (view l) = true) :
    evalShortCut view op left r1 s = (.val l, s1) ∧ evalShortCut view op left r1 s = evalShortCut view op left r2 s := by
  simp [evalShortCut, hl, hd]

theorem shortcut_undecided (view : V → CondVal) (op : SC) (left right : σ → R V × σ) (s s1 : σ) (l : V)
    (hl : left s = (.val l, s1)) (hd : canShortCut op (view l) = false) :
    evalShortCut view op left right s = right s1 := by
  simp [evalShortCut, hl, hd]

theorem shortcut_by_truthiness (view : V → CondVal) (op : SC) (left right : σ → R V × σ) (s s1 : σ) (l : V)
    (hl : left s = (.val l, s1)) (hw : WF (view l)) :
    evalShortCut view op left right s =
      (match op with
       | .or => if isTruthy (view l) then (.val l, s1) else right s1
       | .and => if isTruthy (view l) then right s1 else (.val l, s1)) := by
  have h := one_rule (view l) hw
  cases op <;> simp only [evalShortCut, hl, h.2.1, h.2.2.1] <;> cases isTruthy (view l) <;> simp

/-- **Guards** (`return/raise/defer … if c`) jump exactly when the condition is truthy; the jump's
    expression is evaluated only then. -/
theorem guard_spec (view : V → CondVal) (cond j1 j2 : σ → R V × σ) (s s1 : σ) (c : V)
    (hc : cond s = (.val c, s1)) :
    (isTruthy (view c) = true → (evalGuard view cond j1 s).1 = some (j1 s1)) ∧
    (isTruthy (view c) = false → (evalGuard view cond j1 s).1 = none ∧ evalGuard view cond j1 s = evalGuard view cond j2 s) := by
  constructor <;> intro h <;> simp [evalGuard, hc, h]

example : WF { goBool := some true, b := .tru } ∧ WF { goBool := none, b := .other } := by
  constructor <;> intro x h <;> simp_all

end Pangaea.C12
