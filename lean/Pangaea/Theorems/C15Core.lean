/- C15 on the Core reference evaluator: a function body / program is "run the statements, registering each reached
   `defer` (its guard, if any, already decided when the statement was reached); then run the registered expressions
   once each, in the order they were registered, in the state the body left; the first deferred expression that
   raises replaces the outcome (and the remaining ones are skipped)". The sequential specification is given as two
   inductive judgments without fuel; the theorem says the evaluator computes exactly what they describe. -/
import Pangaea.Theorems.C12Core
namespace Pangaea.C15
open Pangaea.Core Pangaea.C07 Pangaea.C12

/-- how the statements of a body end -/
inductive BodyEnd where
  | fin (v : Val)                 -- fell off the end, or `return v`
  | raised (k msg : String)

/-- `BodyRun env ss val yielded ds s end ds' s'`: running `ss` from the loop state (val, yielded, registered defers ds)
    ends with `end`, the registered defers `ds'` and the state `s'`. A `return` or a raise ends the run: later
    statements are not executed and their defers are never registered. -/
inductive BodyRun (env : Nat) : List Stmt → Val → Option Val → List Expr → St → BodyEnd → List Expr → St → Prop
  | nil (v : Val) (y : Option Val) (ds : List Expr) (s : St) : BodyRun env [] v y ds s (.fin (y.getD v)) ds s
  | val {st : Stmt} {rest : List Stmt} {v v1 : Val} {y : Option Val} {ds ds' : List Expr} {s s1 s2 : St} {o : BodyEnd} :
      GivesStmt st env s (.val v1) s1 → BodyRun env rest v1 y ds s1 o ds' s2 → BodyRun env (st :: rest) v y ds s o ds' s2
  | yld {st : Stmt} {rest : List Stmt} {v v1 : Val} {y : Option Val} {ds ds' : List Expr} {s s1 s2 : St} {o : BodyEnd} :
      GivesStmt st env s (.yld v1) s1 → BodyRun env rest v1 (some (y.getD v1)) ds s1 o ds' s2 → BodyRun env (st :: rest) v y ds s o ds' s2
  | dfr {st : Stmt} {rest : List Stmt} {v : Val} {e : Expr} {y : Option Val} {ds ds' : List Expr} {s s1 s2 : St} {o : BodyEnd} :
      GivesStmt st env s (.dfr e) s1 → BodyRun env rest .nil y (ds ++ [e]) s1 o ds' s2 → BodyRun env (st :: rest) v y ds s o ds' s2
  | ret {st : Stmt} {rest : List Stmt} {v v1 : Val} {y : Option Val} {ds : List Expr} {s s1 : St} :
      GivesStmt st env s (.ret v1) s1 → BodyRun env (st :: rest) v y ds s (.fin v1) ds s1
  | raise {st : Stmt} {rest : List Stmt} {v : Val} {y : Option Val} {ds : List Expr} {s s1 : St} {k msg : String} :
      RaisesStmt st env s k msg s1 → BodyRun env (st :: rest) v y ds s (.raised k msg) ds s1

/-- `DefersRun env ds s err s'`: the registered expressions run once each, first registered first; `err` is the
    error of the first one that raises (the later ones are skipped), or none -/
inductive DefersRun (env : Nat) : List Expr → St → Option (String × String) → St → Prop
  | nil (s : St) : DefersRun env [] s none s
  | ok {e : Expr} {rest : List Expr} {s s1 s2 : St} {v : Val} {o : Option (String × String)} :
      GivesE e env s v s1 → DefersRun env rest s1 o s2 → DefersRun env (e :: rest) s o s2
  | raise {e : Expr} {rest : List Expr} {s s1 : St} {k msg : String} :
      RaisesE e env s k msg s1 → DefersRun env (e :: rest) s (some (k, msg)) s1

/-- the outcome of the whole body: the first raising deferred expression, else the body's own end -/
def outcome : BodyEnd → Option (String × String) → R Val
  | _, some (k, m) => .err k m
  | .fin v, none => .ok v
  | .raised k m, none => .err k m

def dres : Option (String × String) → R Unit
  | none => .ok ()
  | some (k, m) => .err k m

/-- the error a raising body ends with: the first raising deferred expression's, else its own -/
def errOf (k m : String) (od : Option (String × String)) : String × String := od.getD (k, m)

theorem outcome_raised (k m : String) (od : Option (String × String)) :
    outcome (.raised k m) od = .err (errOf k m od).1 (errOf k m od).2 := by
  cases od with
  | none => simp [outcome, errOf]
  | some km => obtain ⟨k2, m2⟩ := km; simp [outcome, errOf]

/-- what the statement loop returns when the statements end with `o`, having registered `ds`, in state `s`: a body that
    raised runs its defers inside the loop (`stmtLoop_cons`), any other hands them to `evalStmts` -/
inductive LoopEnds (env : Nat) : BodyEnd → List Expr → St → R (Val × List Expr) → St → Prop
  | fin (rv : Val) (ds : List Expr) (s : St) : LoopEnds env (.fin rv) ds s (.ok (rv, ds)) s
  | raised {k m : String} {ds : List Expr} {s s' : St} {od : Option (String × String)} :
      DefersRun env ds s od s' → LoopEnds env (.raised k m) ds s (.err (errOf k m od).1 (errOf k m od).2) s'

theorem DefersRun.ev {env : Nat} {ds : List Expr} {s s' : St} {o : Option (String × String)} (h : DefersRun env ds s o s') :
    Ev (runDefers · ds env) s (dres o) s' := by
  induction h with
  | nil s => exact .of_succ (by simp only [runDefers]; exact .pure _ _)
  | ok hv _ ih => exact .of_succ (by simp only [runDefers]; exact hv.ev.bind ih)
  | raise hr => exact .of_succ (by simp only [runDefers]; exact hr.ev.bind_err)

theorem runDefers_of_run {env : Nat} {ds : List Expr} {s s' : St} {o : Option (String × String)} (h : DefersRun env ds s o s') :
    ∃ fuel, runDefers fuel ds env s = (dres o, s') :=
  h.ev.exists_fuel

theorem BodyRun.ev {env : Nat} {ss : List Stmt} {v : Val} {y : Option Val} {ds ds' : List Expr} {s s1 s2 : St} {o : BodyEnd}
    {r : R (Val × List Expr)} (h : BodyRun env ss v y ds s o ds' s1) (he : LoopEnds env o ds' s1 r s2) :
    Ev (stmtLoop · ss env v y ds) s r s2 := by
  induction h with
  | nil v y ds s => cases he; exact .of_succ (by simp only [stmtLoop]; exact .pure _ _)
  | val hv _ ih | yld hv _ ih | dfr hv _ ih => exact loop_of_givesStmt hv (ih he)
  | ret hv => cases he; exact loop_of_givesStmt hv (.pure _ _)
  | raise hr =>
    cases he with | @raised _ _ _ _ _ od hd => ?_
    refine .of_succ ?_
    simp only [stmtLoop_cons]
    refine ((mono_evalStmt _ env).ev hr).handle_err ?_
    cases od with
    | none => exact hd.ev.bind (.throw _ _ _)
    | some km => exact hd.ev.bind_err

/-- a body that ends without raising: the statement loop returns its value and the registered defers -/
theorem stmtLoop_of_fin {env : Nat} {ss : List Stmt} {v r : Val} {y : Option Val} {ds ds' : List Expr} {s s' : St}
    (h : BodyRun env ss v y ds s (.fin r) ds' s') : ∃ fuel, stmtLoop fuel ss env v y ds s = (.ok (r, ds'), s') :=
  (h.ev (.fin r ds' s')).exists_fuel

/-- a body that raises: the statement loop runs the defers registered so far and reports the first raising one,
    else the body's error -/
theorem stmtLoop_of_raised {env : Nat} {ss : List Stmt} {v : Val} {y : Option Val} {ds ds' : List Expr} {s s1 s2 : St}
    {k m : String} {od : Option (String × String)}
    (h : BodyRun env ss v y ds s (.raised k m) ds' s1) (hd : DefersRun env ds' s1 od s2) :
    ∃ fuel, stmtLoop fuel ss env v y ds s = (.err (errOf k m od).1 (errOf k m od).2, s2) :=
  (h.ev (.raised hd)).exists_fuel

/-- **Defers run once each, in registration order, after the body; the first raising one replaces the outcome.**
    For every body: if running its statements registers `ds` (only defers that were reached; none after a `return`
    or a raise) and ends in state s1, and running `ds` from s1 ends in s2, then evaluating the body ends in s2 with
    `outcome`. -/
theorem body_then_defers {env : Nat} {body : List Stmt} {o : BodyEnd} {ds : List Expr} {s s1 s2 : St} {od : Option (String × String)}
    (hb : BodyRun env body .nil none [] s o ds s1) (hd : DefersRun env ds s1 od s2) :
    ∃ fuel, evalStmts fuel body env s = (outcome o od, s2) := by
  refine Ev.exists_fuel (.of_succ ?_)
  simp only [evalStmts_succ]
  cases o with
  | fin r =>
    refine (hb.ev (.fin r ds s1)).bind ?_
    cases od with
    | none => exact hd.ev.bind (.pure _ _)
    | some km => exact hd.ev.bind_err
  | raised k m =>
    rw [outcome_raised]
    exact (hb.ev (.raised hd)).bind_err

/-- a guarded defer whose guard is falsy when the statement is reached registers nothing, whatever the guard would
    yield later (`guard_false_core`); one whose guard is truthy registers the expression unevaluated -/
theorem guarded_defer_registers {env : Nat} {e c : Expr} {rest : List Stmt} {v vc : Val} {y : Option Val} {ds ds' : List Expr}
    {s s1 s2 : St} {o : BodyEnd}
    (hc : GivesE c env s vc s1) (hrest : BodyRun env rest .nil y (if vc.truthy then ds ++ [e] else ds) s1 o ds' s2) :
    BodyRun env (.jumpIf .dfr e c :: rest) v y ds s o ds' s2 := by
  cases ht : vc.truthy with
  | true => rw [ht] at hrest; exact .dfr (guard_defer_core e hc ht) (by simpa using hrest)
  | false => rw [ht] at hrest; exact .val (guard_false_core .dfr (by decide) e hc ht) (by simpa using hrest)

/-- the premises are satisfiable: `defer 1; 2` registers one expression, gives 2 and runs the deferred expression -/
example : ∃ fuel, evalStmts fuel [.jump .dfr (.int 1), .expr (.int 2)] 0 (initSt []) = (outcome (.fin (.int 2)) none, initSt []) :=
  body_then_defers
    (BodyRun.dfr (e := .int 1) (s1 := initSt []) ⟨1, by simp [evalStmt, pureM]⟩
      (BodyRun.val (v1 := .int 2) (s1 := initSt []) ⟨2, by simp [evalStmt, evalE, bindM, pureM]⟩ (BodyRun.nil _ _ _ _)))
    (DefersRun.ok (v := .int 1) (s1 := initSt []) ⟨1, by simp [evalE, pureM]⟩ (DefersRun.nil _))

/-- the error of a defer loop's result (`dres` the other way round) -/
def raisedBy : R Unit → Option (String × String)
  | .err k m => some (k, m)
  | _ => none

theorem defersRun_of_runDefers {env : Nat} : ∀ (ds : List Expr) (f : Nat) (s s' : St) (r : R Unit),
    runDefers f ds env s = (r, s') → Ended r → DefersRun env ds s (raisedBy r) s'
  | _, 0, _, _, _, h, he => by rw [runDefers] at h; exact (he.not_outOfFuel h).elim
  | [], f + 1, _, _, _, h, _ => by rw [runDefers] at h; cases h; exact .nil _
  | e :: rest, f + 1, s, s', r, h, he => by
    rw [runDefers] at h
    rcases he.handleM h with ⟨v, s1, hv, h⟩ | ⟨k, m, s1, hv, h⟩
    · exact .ok ⟨f, hv⟩ (defersRun_of_runDefers rest f s1 s' r h he)
    · cases h; exact .raise ⟨f, hv⟩

/-- what the statement loop returns, read back as the sequential specification -/
theorem bodyRun_of_stmtLoop {env : Nat} : ∀ (ss : List Stmt) (f : Nat) (v : Val) (y : Option Val) (ds : List Expr) (s s' : St)
    (r : R (Val × List Expr)), stmtLoop f ss env v y ds s = (r, s') → Ended r →
    ∃ o ds' s1, BodyRun env ss v y ds s o ds' s1 ∧ LoopEnds env o ds' s1 r s'
  | _, 0, _, _, _, _, _, _, h, he => by rw [stmtLoop] at h; exact (he.not_outOfFuel h).elim
  | [], f + 1, _, _, _, _, _, _, h, _ => by rw [stmtLoop] at h; cases h; exact ⟨_, _, _, .nil _ _ _ _, .fin _ _ _⟩
  | st :: rest, f + 1, v, y, ds, s, s', r, h, he => by
    rw [stmtLoop_cons] at h
    rcases he.handleM h with ⟨sig, s1, hev, h⟩ | ⟨k, m, s1, hev, h⟩
    · -- the statement handed `sig` to the loop: a return ends it, anything else goes on with the rest
      have step : ∀ v' y' ds', stmtLoop f rest env v' y' ds' s1 = (r, s') →
          (∀ {o ds'' s2}, BodyRun env rest v' y' ds' s1 o ds'' s2 → BodyRun env (st :: rest) v y ds s o ds'' s2) →
          ∃ o ds' s1, BodyRun env (st :: rest) v y ds s o ds' s1 ∧ LoopEnds env o ds' s1 r s' :=
        fun v' y' ds' h lift =>
          let ⟨o, ds'', s2, hb, hl⟩ := bodyRun_of_stmtLoop rest f v' y' ds' s1 s' r h he
          ⟨o, ds'', s2, lift hb, hl⟩
      cases sig with
      | val v1 => exact step _ _ _ h (.val ⟨f, hev⟩)
      | yld v1 => exact step _ _ _ h (.yld ⟨f, hev⟩)
      | dfr e => exact step _ _ _ h (.dfr ⟨f, hev⟩)
      | ret v1 => cases h; exact ⟨_, _, _, .ret ⟨f, hev⟩, .fin _ _ _⟩
    · -- the statement raised: the defers registered so far run, and the first raising one replaces the error
      refine ⟨.raised k m, ds, s1, .raise ⟨f, hev⟩, ?_⟩
      rcases he.handleM h with ⟨u, s2, hrd, h⟩ | ⟨k2, m2, s2, hrd, h⟩ <;> cases h <;>
        exact .raised (defersRun_of_runDefers _ _ _ _ _ hrd trivial)

/-- **Exactly the specification.** Whenever evaluating a body ends (with a value or an error), its statements ran as
    `BodyRun` describes, the registered defers ran as `DefersRun` describes - each once, in registration order, after
    the body - and the result is `outcome`. Together with `body_then_defers` the evaluator and the sequential
    specification describe the same relation. -/
theorem evalStmts_is_body_then_defers {env : Nat} {body : List Stmt} {f : Nat} {s s' : St} {r : R Val}
    (h : evalStmts f body env s = (r, s')) (he : Ended r) :
    ∃ o ds s1 od, BodyRun env body .nil none [] s o ds s1 ∧ DefersRun env ds s1 od s' ∧ r = outcome o od := by
  cases f with
  | zero => rw [evalStmts] at h; exact (he.not_outOfFuel h).elim
  | succ f =>
    rw [evalStmts_succ] at h
    rcases he.handleM h with ⟨⟨rv, ds⟩, s1, hl, h⟩ | ⟨k, m, s1, hl, h⟩
    · obtain ⟨_, _, _, hb, hle⟩ := bodyRun_of_stmtLoop body f .nil none [] s s1 _ hl trivial
      cases hle
      rcases he.handleM h with ⟨u, s2, hrd, h⟩ | ⟨k2, m2, s2, hrd, h⟩ <;> cases h <;>
        exact ⟨.fin rv, ds, s1, _, hb, defersRun_of_runDefers _ _ _ _ _ hrd trivial, rfl⟩
    · cases h
      obtain ⟨_, _, _, hb, hle⟩ := bodyRun_of_stmtLoop body f .nil none [] s _ _ hl trivial
      cases hle with
      | raised hd => exact ⟨_, _, _, _, hb, hd, (outcome_raised ..).symm⟩

end Pangaea.C15
