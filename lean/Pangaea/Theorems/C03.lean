/- C03 — argument binding and lexical scoping, over the Core reference evaluator.
   Part 1 (this file): what a call's scope contains (`bindArgs` = assignArgsToEnv + paddedArgs), for all
   parameter lists, argument lists and keyword arguments.
   Part 2 (Theorems/C03Scope.lean): a call never changes an existing scope. -/
import Pangaea.Lemmas.Bind
namespace Pangaea.C03
open Pangaea.Core

/-- naming conditions of a call: parameters and keyword names are plain identifiers, pairwise different -/
structure Names (params : List String) (kwd kwargs : List (String × Val)) : Prop where
  params_nodup : params.Nodup
  params_ident : ∀ p ∈ params, Ident p
  params_not_kw : ∀ p ∈ params, p ∉ kwd.map (·.1)
  kwd_ident : ∀ k ∈ kwd.map (·.1), Ident k
  kwd_nodup : (kwd.map (·.1)).Nodup
  kwargs_nodup : (kwargs.map (·.1)).Nodup
  kwargs_names : ∀ k ∈ kwargs.map (·.1), NotNumeral k ∧ k ≠ "_" ∧ k ≠ ""

theorem getElem?_padArgs (n : Nat) (args : List Val) (i : Nat) (hi : i < n ∨ i < args.length) :
    (padArgs n args)[i]? = some ((args[i]?).getD .nil) := by
  rw [padArgs, List.getElem?_append]
  split
  · next h => rw [List.getElem?_eq_getElem h]; rfl
  · next h =>
    have h := Nat.le_of_not_lt h
    rw [List.getElem?_replicate, List.getElem?_eq_none h,
      if_pos (Nat.sub_lt_sub_right h (hi.resolve_right (Nat.not_lt.2 h)))]; rfl

theorem length_padArgs (n : Nat) (args : List Val) : (padArgs n args).length = max n args.length := by
  rw [padArgs, List.length_append, List.length_replicate, Nat.add_comm, Nat.sub_add_eq_max]

variable {params : List String} {kwd kwargs base : List (String × Val)} {args : List Val}

/-- what `Names` is for: no two bindings of a call are to the same name -/
theorem callWrites_nodup (hn : Names params kwd kwargs) {padded : List Val} (hlen : params.length ≤ padded.length) :
    ((callWrites params kwd padded kwargs).map (·.1)).Nodup := by
  refine nodup_keys_of_ident ?_ ?_ ?_
  all_goals simp only [List.map_append, List.map_map, List.map_fst_zip hlen]
  · intro x hx
    rcases List.mem_append.1 hx with h | h
    · exact hn.params_ident x h
    · exact hn.kwd_ident x h
  · exact List.nodup_append.2 ⟨hn.params_nodup, hn.kwd_nodup, fun a ha b hb he => hn.params_not_kw a ha (he ▸ hb)⟩
  · -- the names without their backslash: numerals, then names that are no numerals
    rw [List.map_fst_zip (by simp), List.append_assoc]
    show (List.map toString (List.range' 1 padded.length) ++ List.map toString [0] ++
      ((padded.take 1).map (fun _ => "") ++ (kwargs.map (·.1) ++ ["_"]))).Nodup
    rw [← List.map_append]
    have hnum : ∀ b ∈ (padded.take 1).map (fun _ => "") ++ (kwargs.map (·.1) ++ ["_"]), NotNumeral b := by
      simp only [List.mem_append, List.mem_singleton]
      rintro b (h | h | rfl)
      · obtain ⟨_, _, rfl⟩ := List.mem_map.1 h; exact notNumeral_empty
      · exact (hn.kwargs_names b h).1
      · exact notNumeral_underscore
    refine List.nodup_append.2 ⟨?_, List.nodup_append.2 ⟨?_, ?_, ?_⟩, ?_⟩
    · refine List.Pairwise.map toString (fun a b h he => h (Nat.repr_injective he))
        (List.nodup_append.2 ⟨List.nodup_range', List.pairwise_singleton .., ?_⟩)
      intro a ha b hb he
      cases List.mem_singleton.1 hb; cases he
      exact absurd (List.mem_range'_1.1 ha).1 (by decide)
    · rcases padded with _ | ⟨a, _⟩
      · exact List.nodup_nil
      · exact List.pairwise_singleton ..
    · exact List.nodup_append.2 ⟨hn.kwargs_nodup, List.pairwise_singleton ..,
        fun a ha b hb he => (hn.kwargs_names a ha).2.1 (he.trans (List.mem_singleton.1 hb))⟩
    · intro a ha b hb he
      obtain ⟨_, _, rfl⟩ := List.mem_map.1 ha
      rcases List.mem_append.1 hb with h | h
      · exact (hn.kwargs_names b h).2.2 he.symm
      · cases List.mem_singleton.1 h; revert he; decide
    · intro a ha b hb he
      obtain ⟨j, _, rfl⟩ := List.mem_map.1 ha
      exact hnum b hb j he.symm

/-- **Under `Names` a call binds every name it writes to what it writes there** (and leaves the other names of
    `base` as they are: `lookup_writeAll`). The theorems below read off the entries of `callWrites` (all but
    `kwarg_all`, the last write, which needs no `Names`). -/
theorem lookup_bindArgs (hn : Names params kwd kwargs) {y : String} {v : Val}
    (h : (y, v) ∈ callWrites params kwd (padArgs params.length args) kwargs) :
    (bindArgs params kwd args kwargs base).lookup y = some v := by
  rw [bindArgs_eq]
  exact lookup_writeAll_of_mem (callWrites_nodup hn (by rw [length_padArgs]; exact Nat.le_max_left ..)) base h

/-- **Positional binding.** The i-th parameter holds the i-th argument, nil when it is missing; surplus
    arguments bind no parameter. -/
theorem positional (hn : Names params kwd kwargs) (i : Nat) (hi : i < params.length) :
    (bindArgs params kwd args kwargs base).lookup params[i] = some ((args[i]?).getD .nil) :=
  lookup_bindArgs hn <| mem_callWrites.2 <| .inl <| List.mem_iff_getElem?.2
    ⟨i, List.getElem?_zip_eq_some.2 ⟨List.getElem?_eq_getElem hi, getElem?_padArgs _ _ _ (.inl hi)⟩⟩

/-- **`\\N`** (N ≥ 1) is the N-th argument received (after nil padding up to the parameter count). -/
theorem arg_var (hn : Names params kwd kwargs) (i : Nat) (hi : i < max params.length args.length) :
    (bindArgs params kwd args kwargs base).lookup (argName (i + 1)) = some ((args[i]?).getD .nil) := by
  refine lookup_bindArgs hn <| mem_callWrites.2 <| .inr <| .inl <| mem_backslash <| List.mem_iff_getElem?.2
    ⟨i, List.getElem?_zip_eq_some.2 ⟨?_, getElem?_padArgs _ _ _ (by omega)⟩⟩
  rw [List.getElem?_map, List.getElem?_range' (by rw [length_padArgs]; exact hi), Nat.one_mul, Nat.add_comm]; rfl

/-- **`\\0`** is the array of all arguments received. -/
theorem arg_all (hn : Names params kwd kwargs) :
    (bindArgs params kwd args kwargs base).lookup "\\0" = some (.arr (padArgs params.length args)) :=
  lookup_bindArgs hn <| mem_callWrites.2 <| .inr <| .inr <| .inl <| List.mem_singleton.2 rfl

/-- **`\\`** is the first argument received, when there is one. -/
theorem arg_first (hn : Names params kwd kwargs) (a : Val) (rest : List Val) (hp : padArgs params.length args = a :: rest) :
    (bindArgs params kwd args kwargs base).lookup "\\" = some a :=
  lookup_bindArgs hn <| mem_callWrites.2 <| .inr <| .inr <| .inr <| .inl <| by
    rw [hp]; exact List.mem_singleton.2 rfl

/-- **Keyword parameters** take the passed value, else their default (evaluated at the literal). -/
theorem keyword_param (hn : Names params kwd kwargs) (k : String) (d : Val) (hk : kwd.lookup k = some d) :
    (bindArgs params kwd args kwargs base).lookup k = some ((kwargs.lookup k).getD d) :=
  lookup_bindArgs hn <| mem_callWrites.2 <| .inr <| .inr <| .inr <| .inr <| .inl <|
    List.mem_map.2 ⟨(k, d), mem_of_lookup hk, rfl⟩

/-- **`\\name`** is the keyword argument received under that name. -/
theorem kwarg_var (hn : Names params kwd kwargs) (k : String) (v : Val) (hk : kwargs.lookup k = some v) :
    (bindArgs params kwd args kwargs base).lookup ("\\" ++ k) = some v :=
  lookup_bindArgs hn <| mem_callWrites.2 <| .inr <| .inr <| .inr <| .inr <| .inr <| .inl <|
    mem_backslash (mem_of_lookup hk)

/-- **`\\_`** is the object of all keyword arguments received. It is the last write, so this needs no `Names`. -/
theorem kwarg_all : (bindArgs params kwd args kwargs base).lookup "\\_" = some (.obj kwargs) :=
  (lookup_setAssoc ..).trans List.lookup_cons_self

/-! non-vacuity: a call shape that satisfies `Names` -/
example : Names ["a", "b"] [("kx", .int 10)] [("kx", .int 1), ("zz", .int 2)] where
  params_nodup := by decide
  params_ident := by
    intro p hp z he
    have : p.toList.head? = some '\\' := by rw [he]; simp
    simp at hp; rcases hp with rfl | rfl <;> simp at this
  params_not_kw := by decide
  kwd_ident := by
    intro p hp z he
    have : p.toList.head? = some '\\' := by rw [he]; simp
    simp at hp; subst hp; simp at this
  kwd_nodup := by decide
  kwargs_nodup := by decide
  kwargs_names := by
    intro k hk
    simp at hk
    rcases hk with rfl | rfl
    · exact ⟨notNumeral_of_nondigit _ 'k' (by decide) (by decide), by decide, by decide⟩
    · exact ⟨notNumeral_of_nondigit _ 'z' (by decide) (by decide), by decide, by decide⟩

end Pangaea.C03
