/- C18 — equality and ordering obey their algebraic laws.
   Domain (`WF`): values whose objects have distinct property names (always true of evaluated objects, C09). -/
import Pangaea.Props.Compare
import Pangaea.Lemmas.Assoc
namespace Pangaea.C18
open Pangaea.Compare

mutual
def WF : V → Prop
  | .arr xs => WFList xs
  | .obj ps => (ps.map (·.1)).Nodup ∧ WFPairs ps
  | _ => True
def WFList : List V → Prop
  | [] => True
  | x :: xs => WF x ∧ WFList xs
def WFPairs : List (String × V) → Prop
  | [] => True
  | (_, v) :: ps => WF v ∧ WFPairs ps
end

theorem wfPairs_mem : ∀ {ps : List (String × V)}, WFPairs ps → ∀ p ∈ ps, WF p.2
  | [], _, _, hp => nomatch hp
  | _ :: _, h, p, hp => by
      cases hp with
      | head => exact h.1
      | tail _ hp => exact wfPairs_mem h.2 p hp

theorem lookupV_eq_lookup (n : String) (ps : List (String × V)) : lookupV n ps = ps.lookup n := by
  induction ps with
  | nil => rfl
  | cons q qs ih => rw [lookupV, List.lookup_cons, ih]; cases n == q.1 <;> rfl

theorem lookupV_mem {n : String} {v : V} {ps : List (String × V)} (hnd : (ps.map (·.1)).Nodup) (hm : (n, v) ∈ ps) :
    lookupV n ps = some v :=
  (lookupV_eq_lookup n ps).trans (lookup_of_mem hnd hm)

theorem mem_of_lookupV {n : String} {w : V} {qs : List (String × V)} (h : lookupV n qs = some w) : (n, w) ∈ qs :=
  mem_of_lookup ((lookupV_eq_lookup n qs).symm.trans h)

theorem eqPairs_iff (ps qs : List (String × V)) :
    eqPairs ps qs = true ↔ ∀ p ∈ ps, ∃ w, lookupV p.1 qs = some w ∧ eqV p.2 w = true := by
  induction ps with
  | nil => simp [eqPairs]
  | cons p ps ih =>
    obtain ⟨n, v⟩ := p
    simp only [eqPairs, Bool.and_eq_true, ih, List.mem_cons, forall_eq_or_imp]
    refine and_congr ?_ Iff.rfl
    cases lookupV n qs <;> simp

theorem eqV_iff_famOf {x : V} (hx : (famOf x).isSome) (y : V) : eqV x y = true ↔ famOf x = famOf y := by
  cases x <;> cases hx <;> unfold eqV <;> cases y <;> simp [intView, famOf, eq_comm (a := 0)]

mutual
/-- **Reflexivity**: `x == x` -/
theorem eqV_refl : ∀ (v : V), WF v → eqV v v = true
  | .nil, _ => by simp [eqV]
  | .bool _, _ | .int .., _ | .flt .., _ | .str .., _ => (eqV_iff_famOf rfl _).mpr rfl
  | .arr xs, h => by simp only [eqV]; exact eqList_refl xs h
  | .obj ps, h => by
      simp only [eqV, beq_self_eq_true, Bool.true_and]
      exact eqPairs_refl ps ps h.2 (fun _ hp => lookupV_mem h.1 hp)
theorem eqList_refl : ∀ (xs : List V), WFList xs → eqList xs xs = true
  | [], _ => by simp [eqList]
  | x :: xs, h => by simp [eqList, eqV_refl x h.1, eqList_refl xs h.2]
theorem eqPairs_refl : ∀ (ps full : List (String × V)), WFPairs ps →
    (∀ p ∈ ps, lookupV p.1 full = some p.2) → eqPairs ps full = true
  | [], _, _, _ => by simp [eqPairs]
  | (n, v) :: ps, full, h, hl => by
      have h1 : lookupV n full = some v := hl (n, v) (List.mem_cons_self ..)
      simp only [eqPairs, h1, eqV_refl v h.1, Bool.true_and]
      exact eqPairs_refl ps full h.2 (fun p hp => hl p (List.mem_cons_of_mem _ hp))
end

/-- pigeonhole -/
theorem subset_of_nodup {α : Type} {as bs : List α} (ha : as.Nodup) (hsub : as ⊆ bs)
    (hl : bs.length ≤ as.length) : bs ⊆ as := fun _ hb =>
  Classical.byContradiction fun hn =>
    have := (List.nodup_cons.mpr ⟨hn, ha⟩).length_le_of_subset (List.cons_subset.mpr ⟨hb, hsub⟩)
    absurd (Nat.le_trans this hl) (Nat.not_succ_le_self _)

/-- The names of `ps`, all different, all occur in `qs`, which is no longer: they are the same names
    (`subset_of_nodup`), so every pair of `qs` is the partner of one of `ps`. `ih`: symmetry on the stored
    values, supplied by the mutual induction below. -/
theorem eqPairs_symm {ps qs : List (String × V)} (hps : (ps.map (·.1)).Nodup) (hqs : (qs.map (·.1)).Nodup)
    (hl : qs.length ≤ ps.length) (ih : ∀ p ∈ ps, ∀ q ∈ qs, eqV p.2 q.2 = true → eqV q.2 p.2 = true)
    (h : eqPairs ps qs = true) : eqPairs qs ps = true := by
  rw [eqPairs_iff] at h ⊢
  have hsub : ps.map (·.1) ⊆ qs.map (·.1) := fun _ ha => by
    obtain ⟨p, hp, rfl⟩ := List.mem_map.mp ha
    obtain ⟨w, hw, _⟩ := h p hp
    exact List.mem_map.mpr ⟨_, mem_of_lookupV hw, rfl⟩
  intro q hq
  obtain ⟨p, hp, hpq⟩ := List.mem_map.mp
    (subset_of_nodup hps hsub (by simpa using hl) (List.mem_map.mpr ⟨q, hq, rfl⟩))
  obtain ⟨w, hw, he⟩ := h p hp
  rw [hpq, lookupV_mem hqs hq] at hw
  cases hw
  exact ⟨p.2, hpq ▸ lookupV_mem hps hp, ih p hp q hq he⟩

theorem eqV_symm_of_famOf {x y : V} (hx : (famOf x).isSome) (h : eqV x y = true) : eqV y x = true :=
  have e := (eqV_iff_famOf hx y).mp h
  (eqV_iff_famOf (e ▸ hx) x).mpr e.symm

mutual
/-- **Symmetry**: `x == y` implies `y == x` -/
theorem eqV_symm : ∀ (x y : V), WF x → WF y → eqV x y = true → eqV y x = true
  | .nil, y, _, _, h => by cases y <;> simp [eqV] at h ⊢
  | .bool _, _, _, _, h | .int .., _, _, _, h | .flt .., _, _, _, h | .str .., _, _, _, h => eqV_symm_of_famOf rfl h
  | .arr xs, y, hx, hy, h => by
      cases y with
      | arr ys => simp only [eqV] at h ⊢; exact eqList_symm xs ys hx hy h
      | _ => simp [eqV] at h
  | .obj ps, y, hx, hy, h => by
      cases y with
      | obj qs =>
        simp only [eqV, Bool.and_eq_true, beq_iff_eq] at h ⊢
        exact ⟨h.1.symm, eqPairs_symm hx.1 hy.1 (Nat.le_of_eq h.1.symm)
          (fun p hp q hq => pairs_symm ps hx.2 p hp q.2 (wfPairs_mem hy.2 q hq)) h.2⟩
      | _ => simp [eqV] at h
-- spelled out: left to find the argument itself, Lean falls back to well-founded recursion, which costs several times as much to check
termination_by structural x => x
theorem eqList_symm : ∀ (xs ys : List V), WFList xs → WFList ys → eqList xs ys = true → eqList ys xs = true
  | [], ys, _, _, h => by cases ys <;> simp_all [eqList]
  | x :: xs, ys, hx, hy, h => by
      cases ys with
      | nil => simp [eqList] at h
      | cons y ys =>
        simp only [eqList, Bool.and_eq_true] at h ⊢
        exact ⟨eqV_symm x y hx.1 hy.1 h.1, eqList_symm xs ys hx.2 hy.2 h.2⟩
termination_by structural xs => xs
theorem pairs_symm : ∀ (ps : List (String × V)), WFPairs ps → ∀ p ∈ ps, ∀ w, WF w → eqV p.2 w = true → eqV w p.2 = true
  | [], _, _, hp, _, _, _ => by cases hp
  | (n, v) :: ps, h, p, hp, w, hw, he => by
      cases hp with
      | head => exact eqV_symm v w h.1 hw he
      | tail _ hp' => exact pairs_symm ps h.2 p hp' w hw he
termination_by structural ps => ps
end

theorem eq_symm (x y : V) (hx : WF x) (hy : WF y) : eqV x y = eqV y x :=
  Bool.eq_iff_iff.mpr ⟨eqV_symm x y hx hy, eqV_symm y x hy hx⟩

/-- **`!=` is the negation of `==`** -/
theorem ne_is_not_eq (x y : V) : neV x y = !eqV x y := rfl

/-- the three-way comparison that both arms of `cmp3` compute -/
def threeWay {α : Type} [LT α] [DecidableLT α] [DecidableEq α] (a b : α) : Int :=
  if b < a then 1 else if a = b then 0 else -1

section
variable {α : Type} [LE α] [LT α] [DecidableLT α] [DecidableEq α] [Std.LawfulOrderLT α]

theorem threeWay_of_lt {a b : α} (h : a < b) : threeWay a b = -1 ∧ threeWay b a = 1 :=
  ⟨by rw [threeWay, if_neg (Std.not_gt_of_lt h), if_neg (Std.ne_of_lt h)], if_pos h⟩

theorem threeWay_self (a : α) : threeWay a a = 0 := by rw [threeWay, if_neg Std.lt_irrefl, if_pos rfl]

variable [Std.IsLinearOrder α]

theorem threeWay_laws (a b : α) :
    threeWay b a = -threeWay a b ∧ (threeWay a b = -1 ∨ threeWay a b = 0 ∨ threeWay a b = 1) ∧
      (threeWay a b = 0 ↔ a = b) := by
  rcases Std.lt_trichotomy a b with h | rfl | h
  · simp [threeWay_of_lt h, Std.ne_of_lt h]
  · simp [threeWay_self]
  · simp [threeWay_of_lt h, (Std.ne_of_lt h).symm]

theorem threeWay_trans {a b c : α} (h1 : threeWay a b ≤ 0) (h2 : threeWay b c ≤ 0) :
    threeWay a c ≤ 0 ∧ (threeWay a b = -1 ∨ threeWay b c = -1 → threeWay a c = -1) := by
  rcases Std.lt_trichotomy a b with hab | rfl | hab
  · rcases Std.lt_trichotomy b c with hbc | rfl | hbc
    · simp [threeWay_of_lt (Std.lt_trans hab hbc)]
    · simp [threeWay_of_lt hab]
    · rw [(threeWay_of_lt hbc).2] at h2; omega
  · exact ⟨h2, by simp [threeWay_self]⟩
  · rw [(threeWay_of_lt hab).2] at h1; omega

end

-- `cmp3 (.i a) (.i b)` and `cmp3 (.s a) (.s b)` are `some (threeWay a b)` by definition, at `Int` and at `String`
theorem cmp3_laws (k l : Key) (c : Int) (h : cmp3 k l = some c) :
    cmp3 l k = some (-c) ∧ (c = -1 ∨ c = 0 ∨ c = 1) ∧ (c = 0 ↔ k = l) := by
  cases k <;> cases l <;> cases h
  · rw [Key.i.injEq]; exact (threeWay_laws _ _).imp_left (congrArg some)
  · rw [Key.s.injEq]; exact (threeWay_laws _ _).imp_left (congrArg some)

/-- the comparable families, written out: ints (booleans are the ints 1 and 0 of the built-in prototype), floats, strs -/
inductive Fam : V → Nat → Nat → Key → Prop where
  | int (p : Nat) (v : Int) : Fam (.int p v) 0 p (.i v)
  | bool (b : Bool) : Fam (.bool b) 0 0 (.i (if b then 1 else 0))
  | flt (p : Nat) (a : Int) : Fam (.flt p a) 1 0 (.i a)     -- Float#== / Str#== ignore the prototype
  | str (p : Nat) (a : String) : Fam (.str p a) 2 0 (.s a)

theorem fam_famOf {x : V} {f p : Nat} {k : Key} (h : Fam x f p k) : famOf x = some (f, p, k) := by
  cases h <;> rfl

theorem eqV_fam {x y : V} {f p : Nat} {k l : Key} (hx : Fam x f p k) (hy : Fam y f p l) :
    eqV x y = true ↔ k = l := by
  rw [eqV_iff_famOf (by rw [fam_famOf hx]; rfl), fam_famOf hx, fam_famOf hy]; simp

/-- **Trichotomy, unions, antisymmetry** for two ints (booleans included), two floats or two strs with the same
    prototype: exactly one of `x < y`, `x == y`, `x > y` holds; `<=`/`>=` are the unions; `x <=> y = -(y <=> x)`. -/
theorem order_laws {x y : V} {f p : Nat} {k l : Key} (hx : Fam x f p k) (hy : Fam y f p l) :
    ∃ c, cmpV x y = some c ∧ cmpV y x = some (-c) ∧ (c = -1 ∨ c = 0 ∨ c = 1) ∧
      (eqV x y = true ↔ c = 0) ∧ ltV x y = some (c == -1) ∧ gtV x y = some (c == 1) ∧
      leV x y = some (c != 1) ∧ geV x y = some (c != -1) := by
  have fx := fam_famOf hx
  have fy := fam_famOf hy
  obtain ⟨c, hc⟩ : ∃ c, cmp3 k l = some c := by cases hx <;> cases hy <;> exact ⟨_, rfl⟩
  have hxy : cmpV x y = some c := by simp [cmpV, fx, fy, hc]
  have ⟨hs, hr, h0⟩ := cmp3_laws k l c hc
  refine ⟨c, hxy, by simp [cmpV, fx, fy, hs], hr, (eqV_fam hx hy).trans h0.symm, ?_⟩
  simp [ltV, gtV, leV, geV, hxy]

/-- **Transitivity** of the order on keys: `k ≤ l` and `l ≤ m` give `k ≤ m`, strictly if either is strict -/
theorem cmp3_trans (k l m : Key) (a b : Int) (h1 : cmp3 k l = some a) (h2 : cmp3 l m = some b)
    (ha : a ≤ 0) (hb : b ≤ 0) : ∃ c, cmp3 k m = some c ∧ c ≤ 0 ∧ (a = -1 ∨ b = -1 → c = -1) := by
  cases k <;> cases l <;> cases h1 <;> cases m <;> cases h2
  · exact ⟨_, rfl, threeWay_trans ha hb⟩
  · exact ⟨_, rfl, threeWay_trans ha hb⟩

/-- **Known finding as a theorem**: for members of one family with *different* prototypes and equal payload none
    of `<`, `==`, `>` holds (`==` compares prototypes, `<=>` does not). -/
theorem cross_prototype_gap :
    ltV (.int 1 1) (.int 0 1) = some false ∧ eqV (.int 1 1) (.int 0 1) = false ∧ gtV (.int 1 1) (.int 0 1) = some false := by
  decide

example : eqV (.bool true) (.int 0 1) = true ∧ eqV (.int 0 1) (.bool true) = true := by decide
example : eqV (.obj [("a", .int 0 1), ("b", .arr [.nil])]) (.obj [("b", .arr [.nil]), ("a", .int 0 1)]) = true := by decide
example : ltV (.int 2 1) (.int 2 5) = some true ∧ ltV (.bool false) (.bool true) = some true := by decide

end Pangaea.C18
