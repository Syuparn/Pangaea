/- C14 — iterator literals: the next / yield / recur protocol and independence, over the Core reference
   evaluator (Core/Eval.lean: `builtinCall "new"`, `iterNext`, `callVal (.recur id)`, `srcOf`, `nextElem`,
   `stmtLoop`). Iterators are entries of `St.iters` (identity = index); an entry's only mutable part is the
   scope it points to. -/
import Pangaea.Lemmas.Core
namespace Pangaea.C14
open Pangaea.Core

variable {fuel env : Nat} {s s' : St}

/-- **`new` is fresh.** `it.new(args)` returns a new iterator identity; every existing iterator entry and every
    existing scope is left exactly as it was; the new iterator's scope is a new frame holding the bound
    arguments, enclosed in the scope where the literal was written. -/
theorem new_is_fresh (id : Nat) (it : IterSt) (hid : s.iters[id]? = some it) (args : List Val) (kwargs : List (String × Val)) :
    builtinCall (fuel + 1) "new" (.iter id) args kwargs env s
      = (.ok (.iter s.iters.length),
         { s with
           frames := s.frames ++ [{ vars := bindArgs it.params it.kwd args kwargs [], outer := (s.frames.getD it.env default).outer }],
           iters := s.iters ++ [{ it with env := s.frames.length }] }) := by
  rw [builtinCall, bindM_ok _ _ _ _ _ (getIter_some hid)]; rfl

/-- **A chain works on a copy.** Iterating over an iterator (`@`, `$`, `A`) starts from a new identity whose
    scope is a copy of the iterator's current scope; the iterator itself is not touched by taking the copy. -/
theorem chain_source_is_copy (id : Nat) (it : IterSt) (hid : s.iters[id]? = some it) :
    srcOf (fuel + 1) (.iter id) s
      = (.ok (.iter s.iters.length),
         { s with frames := s.frames ++ [s.frames.getD it.env default], iters := s.iters ++ [{ it with env := s.frames.length }] }) := by
  rw [srcOf, bindM_ok _ _ _ _ _ (getIter_some hid)]; rfl

/-- existing entries are still there after `new` / a chain copy -/
theorem getD_append_left {α : Type} (l : List α) (x d : α) (i : Nat) (h : i < l.length) : (l ++ [x]).getD i d = l.getD i d := by
  rw [List.getD_eq_getElem?_getD, List.getElem?_append_left h, List.getD_eq_getElem?_getD]

/-- **`recur` swaps only its own iterator.** It points iterator `id` to a new frame (the re-bound arguments,
    enclosed in the literal's defining scope); all other iterators and all existing scopes are unchanged. -/
theorem recur_swaps_only_self (id : Nat) (it : IterSt) (hid : s.iters[id]? = some it) (args : List Val) (kwargs : List (String × Val)) :
    callVal (fuel + 1) (.recur id) args kwargs s
      = (.ok .nil,
         { s with
           frames := s.frames ++ [{ vars := bindArgs it.params it.kwd args kwargs [], outer := (s.frames.getD it.env default).outer }],
           iters := s.iters.modify id (fun it => { it with env := s.frames.length }) }) := by
  rw [callVal, bindM_ok _ _ _ _ _ (getIter_some hid)]; rfl

theorem recur_other_untouched (id j : Nat) (hj : j ≠ id) (its : List IterSt) (f : IterSt → IterSt) :
    (its.modify id f)[j]? = its[j]? :=
  List.getElem?_modify_ne f its hj.symm

/-- **`next` evaluates the body once** in the iterator's own scope, with `recur` bound there. -/
theorem next_runs_body (id : Nat) (it : IterSt) (hid : s.iters[id]? = some it) :
    iterNext (fuel + 1) id s
      = evalStmts fuel it.body it.env
          { s with frames := s.frames.modify it.env (fun fr => { fr with vars := setAssoc "recur" (.recur id) fr.vars }) } := by
  rw [iterNext, bindM_ok _ _ _ _ _ (getIter_some hid)]; rfl

/-- **A guarded `yield` whose condition is false raises StopIterErr** (and evaluates nothing else of the statement). -/
theorem guarded_yield_stops (e cond : Expr) (vc : Val) (s1 : St)
    (hc : evalE fuel cond env s = (.ok vc, s1)) (hf : vc.truthy = false) :
    evalStmt (fuel + 1) (.jumpIf .yld e cond) env s = (.err "StopIterErr" "iter stopped", s1) := by
  rw [evalStmt]; simp [bindM, hc, hf]

theorem guarded_yield_yields (e cond : Expr) (vc v : Val) (s1 s2 : St)
    (hc : evalE fuel cond env s = (.ok vc, s1)) (ht : vc.truthy = true) (he : evalE fuel e env s1 = (.ok v, s2)) :
    evalStmt (fuel + 1) (.jumpIf .yld e cond) env s = (.ok (.yld v), s2) := by
  rw [evalStmt]; simp [bindM, hc, ht, he]

/-- **The first yielded value is the result**; the rest of the body still runs (so a later `recur` takes effect). -/
theorem first_yield_wins (st : Stmt) (rest : List Stmt) (val v y : Val) (defers : List Expr) (s1 : St)
    (h : evalStmt fuel st env s = (.ok (.yld v), s1)) :
    stmtLoop (fuel + 1) (st :: rest) env val (some y) defers s = stmtLoop fuel rest env v (some y) defers s1 := by
  rw [stmtLoop_cons, handleM_ok h]; rfl

theorem yield_is_result (st : Stmt) (rest : List Stmt) (val v : Val) (defers : List Expr) (s1 : St)
    (h : evalStmt fuel st env s = (.ok (.yld v), s1)) :
    stmtLoop (fuel + 1) (st :: rest) env val none defers s = stmtLoop fuel rest env v (some v) defers s1 := by
  rw [stmtLoop_cons, handleM_ok h]; rfl

theorem result_is_yielded (val y : Val) (defers : List Expr) :
    stmtLoop (fuel + 1) [] env val (some y) defers s = (.ok (y, defers), s) := by
  rw [stmtLoop]; simp

/-- **A chain stops at the first StopIterErr** and passes every other error on. -/
theorem chain_stops_at_stopiter (id : Nat) (msg : String) (h : iterNext fuel id s = (.err "StopIterErr" msg, s')) :
    nextElem (fuel + 1) (.iter id) s = (.ok none, s') := by
  rw [nextElem_iter, handleM_err h]; rfl

theorem chain_passes_other_errors (id : Nat) (k msg : String) (hk : (k == "StopIterErr") = false)
    (h : iterNext fuel id s = (.err k msg, s')) :
    nextElem (fuel + 1) (.iter id) s = (.err k msg, s') := by
  rw [nextElem_iter, handleM_err h, hk]; rfl

theorem chain_visits_next (id : Nat) (v : Val) (h : iterNext fuel id s = (.ok v, s')) :
    nextElem (fuel + 1) (.iter id) s = (.ok (some (v, .iter id)), s') := by
  rw [nextElem_iter, handleM_ok h]; rfl

end Pangaea.C14
