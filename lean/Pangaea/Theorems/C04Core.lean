/- C04 on the Core reference evaluator: a list chain over an array calls the property on e1..en in order - each
   element once, in the state the previous call left - and collects the results (nil results dropped; the strict and
   thoughtful variants keep every result); a reduce chain folds left from the chain argument. A raise in the call for
   element k ends the chain there: the later elements are not visited. Stated as sequential specifications without
   fuel and proved equivalent to the evaluator's loops. (The per-element context rules - lonely, thoughtful - are
   `propAdd`; C07 has the thoughtful rule, `Eval/Chain.lean` the abstract chain model that is compared with the
   implementation for every chain x modifier.)
   The loops are the same for every source a chain can run over (`Src`: the rest of an array, a copy of an iterator,
   standard input), so the specification and both directions are given for any source (`C14.SrcListRun`,
   `C14.SrcReduceRun`: C14's "a chain visits exactly the values successive `next` steps return") and arrays are the
   instance `.elems xs`. Theorems/C14Core.lean has what is particular to iterators. -/
import Pangaea.Lemmas.Fuel
namespace Pangaea.C04
open Pangaea.Core Pangaea.C15

/-- which results a list chain collects -/
def keep (a : Add) (acc : List Val) (v : Val) : List Val :=
  match a, v with
  | .strict, v => acc ++ [v]
  | .thoughtful, v => acc ++ [v]
  | _, .nil => acc
  | _, v => acc ++ [v]

section
variable (a : Add) (name : String) (args : List Val) (kwargs : List (String × Val)) (env : Nat)

/-- the call made for one element (with the chain's additional context) ends with `r` -/
def CallEnds (recv : Val) (extra : List Val) (s : St) (r : R Val) (s' : St) : Prop :=
  ∃ fuel, propAdd fuel a recv name (extra ++ args) kwargs env s = (r, s')

/-- list chain over the elements xs: the specification -/
inductive ListRun : List Val → List Val → St → R (List Val) → St → Prop
  | nil (acc : List Val) (s : St) : ListRun [] acc s (.ok acc) s
  | step {x : Val} {xs acc : List Val} {s s1 s2 : St} {v : Val} {res : R (List Val)} :
      CallEnds a name args kwargs env x [] s (.ok v) s1 → ListRun xs (keep a acc v) s1 res s2 → ListRun (x :: xs) acc s res s2
  | raise {x : Val} {xs acc : List Val} {s s1 : St} {k m : String} :
      CallEnds a name args kwargs env x [] s (.err k m) s1 → ListRun (x :: xs) acc s (.err k m) s1

/-- reduce chain over the elements xs from the accumulator: the specification -/
inductive ReduceRun : List Val → Val → St → R Val → St → Prop
  | nil (acc : Val) (s : St) : ReduceRun [] acc s (.ok acc) s
  | step {x : Val} {xs : List Val} {acc v : Val} {s s1 s2 : St} {res : R Val} :
      CallEnds a name args kwargs env acc [x] s (.ok v) s1 → ReduceRun xs v s1 res s2 → ReduceRun (x :: xs) acc s res s2
  | raise {x : Val} {xs : List Val} {acc : Val} {s s1 : St} {k m : String} :
      CallEnds a name args kwargs env acc [x] s (.err k m) s1 → ReduceRun (x :: xs) acc s (.err k m) s1
end

theorem CallEnds.ev {a : Add} {name : String} {args : List Val} {kwargs : List (String × Val)} {env : Nat} {recv : Val}
    {extra : List Val} {s s' : St} {r : R Val} (h : CallEnds a name args kwargs env recv extra s r s')
    (hr : r.notFuel := by trivial) : Ev (propAdd · a recv name (extra ++ args) kwargs env) s r s' :=
  (mono_propAdd a recv name (extra ++ args) kwargs env).ev h hr

end Pangaea.C04

namespace Pangaea.C14
open Pangaea.Core Pangaea.C04 Pangaea.C15

/-- one `next` step of a source: `none` = exhausted (an iterator raised StopIterErr) -/
def NextGives (src : Src) (s : St) (r : Option (Val × Src)) (s' : St) : Prop := ∃ fuel, nextElem fuel src s = (.ok r, s')
def NextRaises (src : Src) (s : St) (k m : String) (s' : St) : Prop := ∃ fuel, nextElem fuel src s = (.err k m, s')

section
variable (a : Add) (name : String) (args : List Val) (kwargs : List (String × Val)) (env : Nat)

/-- list chain over a source: step, call, collect - until the source is exhausted or something raises -/
inductive SrcListRun : Src → List Val → St → R (List Val) → St → Prop
  | done {src : Src} {acc : List Val} {s s1 : St} : NextGives src s none s1 → SrcListRun src acc s (.ok acc) s1
  | step {src src' : Src} {x v : Val} {acc : List Val} {s s1 s2 s3 : St} {res : R (List Val)} :
      NextGives src s (some (x, src')) s1 → CallEnds a name args kwargs env x [] s1 (.ok v) s2 →
      SrcListRun src' (keep a acc v) s2 res s3 → SrcListRun src acc s res s3
  | raiseNext {src : Src} {acc : List Val} {s s1 : St} {k m : String} :
      NextRaises src s k m s1 → SrcListRun src acc s (.err k m) s1
  | raiseCall {src src' : Src} {x : Val} {acc : List Val} {s s1 s2 : St} {k m : String} :
      NextGives src s (some (x, src')) s1 → CallEnds a name args kwargs env x [] s1 (.err k m) s2 →
      SrcListRun src acc s (.err k m) s2
/-- reduce chain over a source: step, call with (accumulator, element), continue with the result -/
inductive SrcReduceRun : Src → Val → St → R Val → St → Prop
  | done {src : Src} {acc : Val} {s s1 : St} : NextGives src s none s1 → SrcReduceRun src acc s (.ok acc) s1
  | step {src src' : Src} {x v acc : Val} {s s1 s2 s3 : St} {res : R Val} :
      NextGives src s (some (x, src')) s1 → CallEnds a name args kwargs env acc [x] s1 (.ok v) s2 →
      SrcReduceRun src' v s2 res s3 → SrcReduceRun src acc s res s3
  | raiseNext {src : Src} {acc : Val} {s s1 : St} {k m : String} :
      NextRaises src s k m s1 → SrcReduceRun src acc s (.err k m) s1
  | raiseCall {src src' : Src} {x acc : Val} {s s1 s2 : St} {k m : String} :
      NextGives src s (some (x, src')) s1 → CallEnds a name args kwargs env acc [x] s1 (.err k m) s2 →
      SrcReduceRun src acc s (.err k m) s2
end

/-- the list-chain loop with its four-way choice of what to collect written as `keep` -/
theorem propListLoop_succ (n : Nat) (a : Add) (src : Src) (name : String) (args : List Val) (kw : List (String × Val)) (env : Nat)
    (acc : List Val) :
    propListLoop (n + 1) a src name args kw env acc = nextElem n src >>== fun nx => match nx with
      | none => pureM acc
      | some (e, src') => propAdd n a e name args kw env >>== fun v => propListLoop n a src' name args kw env (keep a acc v) := by
  rw [propListLoop]
  congr 1; funext nx
  split
  · rfl
  · congr 1; funext v
    cases a <;> cases v <;> rfl

section
variable {a : Add} {name : String} {args : List Val} {kwargs : List (String × Val)} {env : Nat}

theorem NextGives.ev {src : Src} {s s' : St} {r : Option (Val × Src)} (h : NextGives src s r s') :
    Ev (nextElem · src) s (.ok r) s' :=
  (mono_nextElem src).ev h
theorem NextRaises.ev {src : Src} {s s' : St} {k m : String} (h : NextRaises src s k m s') :
    Ev (nextElem · src) s (.err k m) s' :=
  (mono_nextElem src).ev h
theorem SrcListRun.ev {src : Src} {acc : List Val} {s s' : St} {res : R (List Val)}
    (h : SrcListRun a name args kwargs env src acc s res s') : Ev (propListLoop · a src name args kwargs env acc) s res s' := by
  induction h with
  | done hn => exact .of_succ (by simp only [propListLoop_succ]; exact hn.ev.bind (.pure _ _))
  | step hn hc _ ih => exact .of_succ (by simp only [propListLoop_succ]; exact hn.ev.bind (hc.ev.bind ih))
  | raiseNext hn => exact .of_succ (by simp only [propListLoop_succ]; exact hn.ev.bind_err)
  | raiseCall hn hc => exact .of_succ (by simp only [propListLoop_succ]; exact hn.ev.bind hc.ev.bind_err)

/-- **A list chain visits exactly the values the successive `next` steps return, up to the first exhaustion.** -/
theorem list_chain_src {a : Add} {name : String} {args : List Val} {kwargs : List (String × Val)} {env : Nat}
    {src : Src} {acc : List Val} {s s' : St} {res : R (List Val)} (h : SrcListRun a name args kwargs env src acc s res s') :
    ∃ fuel, propListLoop fuel a src name args kwargs env acc s = (res, s') :=
  h.ev.exists_fuel

/-- **Exactly the specification.** If the list-chain loop ends (with the collected values or an error), the source was
    stepped, and the property called, exactly as `SrcListRun` describes. With `list_chain_src` the loop and the
    sequential specification are the same relation. -/
theorem srcListRun_of_loop {a : Add} {name : String} {args : List Val} {kwargs : List (String × Val)} {env : Nat} :
    ∀ (f : Nat) (src : Src) (acc : List Val) (s s' : St) (r : R (List Val)),
      propListLoop f a src name args kwargs env acc s = (r, s') → Ended r → SrcListRun a name args kwargs env src acc s r s'
  | 0, _, _, _, _, _, h, he => by rw [propListLoop] at h; exact (he.not_outOfFuel h).elim
  | f + 1, src, acc, s, s', r, h, he => by
    rw [propListLoop_succ] at h
    rcases he.handleM h with ⟨nx, s1, hn, h⟩ | ⟨k, m, s1, hn, h⟩
    · match nx with
      | none => cases h; exact .done ⟨f, hn⟩
      | some (x, src') =>
        rcases he.handleM h with ⟨v, s2, hc, h⟩ | ⟨k, m, s2, hc, h⟩
        · exact .step ⟨f, hn⟩ ⟨f, hc⟩ (srcListRun_of_loop f src' _ s2 s' r h he)
        · cases h; exact .raiseCall ⟨f, hn⟩ ⟨f, hc⟩
    · cases h; exact .raiseNext ⟨f, hn⟩

theorem SrcReduceRun.ev {src : Src} {acc : Val} {s s' : St} {res : R Val}
    (h : SrcReduceRun a name args kwargs env src acc s res s') : Ev (propReduceLoop · a src acc name args kwargs env) s res s' := by
  induction h with
  | done hn => exact .of_succ (by simp only [propReduceLoop]; exact hn.ev.bind (.pure _ _))
  | step hn hc _ ih => exact .of_succ (by simp only [propReduceLoop]; exact hn.ev.bind (hc.ev.bind ih))
  | raiseNext hn => exact .of_succ (by simp only [propReduceLoop]; exact hn.ev.bind_err)
  | raiseCall hn hc => exact .of_succ (by simp only [propReduceLoop]; exact hn.ev.bind hc.ev.bind_err)

/-- **A reduce chain folds left over exactly the values the successive `next` steps return.** -/
theorem reduce_chain_src {a : Add} {name : String} {args : List Val} {kwargs : List (String × Val)} {env : Nat}
    {src : Src} {acc : Val} {s s' : St} {res : R Val} (h : SrcReduceRun a name args kwargs env src acc s res s') :
    ∃ fuel, propReduceLoop fuel a src acc name args kwargs env s = (res, s') :=
  h.ev.exists_fuel

theorem srcReduceRun_of_loop {a : Add} {name : String} {args : List Val} {kwargs : List (String × Val)} {env : Nat} :
    ∀ (f : Nat) (src : Src) (acc : Val) (s s' : St) (r : R Val),
      propReduceLoop f a src acc name args kwargs env s = (r, s') → Ended r → SrcReduceRun a name args kwargs env src acc s r s'
  | 0, _, _, _, _, _, h, he => by rw [propReduceLoop] at h; exact (he.not_outOfFuel h).elim
  | f + 1, src, acc, s, s', r, h, he => by
    rw [propReduceLoop] at h
    rcases he.handleM h with ⟨nx, s1, hn, h⟩ | ⟨k, m, s1, hn, h⟩
    · match nx with
      | none => cases h; exact .done ⟨f, hn⟩
      | some (x, src') =>
        rcases he.handleM h with ⟨v, s2, hc, h⟩ | ⟨k, m, s2, hc, h⟩
        · exact .step ⟨f, hn⟩ ⟨f, hc⟩ (srcReduceRun_of_loop f src' v s2 s' r h he)
        · cases h; exact .raiseCall ⟨f, hn⟩ ⟨f, hc⟩
    · cases h; exact .raiseNext ⟨f, hn⟩

end
end Pangaea.C14

namespace Pangaea.C04
open Pangaea.Core Pangaea.C15 Pangaea.C14

section
variable {a : Add} {name : String} {args : List Val} {kwargs : List (String × Val)} {env : Nat}

theorem next_elems_nil (s : St) : NextGives (.elems []) s none s := ⟨1, by rw [nextElem]; rfl⟩
theorem next_elems_cons (x : Val) (xs : List Val) (s : St) : NextGives (.elems (x :: xs)) s (some (x, .elems xs)) s :=
  ⟨1, by rw [nextElem]; rfl⟩

theorem ListRun.src {xs acc : List Val} {s s' : St} {res : R (List Val)} (h : ListRun a name args kwargs env xs acc s res s') :
    SrcListRun a name args kwargs env (.elems xs) acc s res s' := by
  induction h with
  | nil acc s => exact .done (next_elems_nil s)
  | step hc _ ih => exact .step (next_elems_cons _ _ _) hc ih
  | raise hc => exact .raiseCall (next_elems_cons _ _ _) hc

theorem ReduceRun.src {xs : List Val} {acc : Val} {s s' : St} {res : R Val} (h : ReduceRun a name args kwargs env xs acc s res s') :
    SrcReduceRun a name args kwargs env (.elems xs) acc s res s' := by
  induction h with
  | nil acc s => exact .done (next_elems_nil s)
  | step hc _ ih => exact .step (next_elems_cons _ _ _) hc ih
  | raise hc => exact .raiseCall (next_elems_cons _ _ _) hc
end

/-- **List chain: each element once, in order; results collected by `keep`; a raise ends the chain.** -/
theorem list_chain_elems {a : Add} {name : String} {args : List Val} {kwargs : List (String × Val)} {env : Nat}
    {xs acc : List Val} {s s' : St} {res : R (List Val)} (h : ListRun a name args kwargs env xs acc s res s') :
    ∃ fuel, propListLoop fuel a (.elems xs) name args kwargs env acc s = (res, s') :=
  list_chain_src h.src

/-- **Reduce chain: fold left from the accumulator, passing the accumulator and the element.** -/
theorem reduce_chain_elems {a : Add} {name : String} {args : List Val} {kwargs : List (String × Val)} {env : Nat}
    {xs : List Val} {acc : Val} {s s' : St} {res : R Val} (h : ReduceRun a name args kwargs env xs acc s res s') :
    ∃ fuel, propReduceLoop fuel a (.elems xs) acc name args kwargs env s = (res, s') :=
  reduce_chain_src h.src

/-- a list chain over a receiver that `srcOf` turns into `src`: the array of what the loop over `src` collects -/
theorem list_chain_of_src {a : Add} {name : String} {args : List Val} {kwargs : List (String × Val)} {env : Nat}
    {recv : Val} {src : Src} {vs : List Val} {s s0 s' : St} (hsrc : Ev (srcOf · recv) s (.ok src) s0)
    (h : SrcListRun a name args kwargs env src [] s0 (.ok vs) s') :
    ∃ fuel, propChain fuel .list a recv .nil name args kwargs env s = (.ok (.arr vs), s') := by
  refine Ev.exists_fuel (.of_succ ?_)
  simp only [propChain]
  exact Ev.bind hsrc (h.ev.bind (.pure _ _))

/-- the whole chain expression's value: `recv@prop(args)` over an array receiver is the array of the collected results -/
theorem list_chain_value {a : Add} {name : String} {args : List Val} {kwargs : List (String × Val)} {env : Nat}
    {xs vs : List Val} {s s' : St} (h : ListRun a name args kwargs env xs [] s (.ok vs) s') :
    ∃ fuel, propChain fuel .list a (.arr xs) .nil name args kwargs env s = (.ok (.arr vs), s') :=
  list_chain_of_src (.of_succ (by simp only [srcOf]; exact .pure _ _)) h.src

/-- what `keep` does for the plain and the strict chain: nil results are dropped, resp. every result is kept -/
theorem keep_plain (acc : List Val) (v : Val) : keep .vanilla acc v = if v matches .nil then acc else acc ++ [v] := by
  cases v <;> simp [keep]

theorem keep_strict (acc : List Val) (v : Val) : keep .strict acc v = acc ++ [v] := by
  simp [keep]

/-- the premises are satisfiable: the lonely list chain over `[nil]` skips the call and collects nothing -/
example : ∃ fuel, propListLoop fuel .lonely (.elems [.nil]) "p" [] [] 0 [] (initSt []) = (.ok [], initSt []) :=
  list_chain_elems (ListRun.step (v := .nil) (s1 := initSt []) ⟨1, by simp [propAdd, pureM]⟩ (by simpa [keep] using ListRun.nil _ _))

end Pangaea.C04
