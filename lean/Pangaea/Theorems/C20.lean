/- C20 — concurrent evaluations do not race on the interpreter-wide symbol tables.
   The action sequences of the Go functions are regenerated from object/*.go on every run
   (Generated/C20.lean). -/
import Pangaea.Lemmas.SymTab
import Pangaea.Generated.C20
namespace Pangaea.C20
open Pangaea.SymTab Pangaea.SymTabLemmas

/-- **Generated obligation.** Every function of package `object` that touches `symHashTable`,
    `strTable` or the mutex accesses the tables only while holding the lock in a sufficient mode and
    returns without holding it; the extractor classified every site. -/
theorem generated_balanced :
    (Generated.C20.funcs.all (fun f => balanced f.2)) = true ∧ Generated.C20.unclassified = [] := by
  decide

/-- the extractor found the table functions (guards against an empty, vacuous table) -/
theorem generated_nonempty :
    (Generated.C20.funcs.any (fun f => f.2.any (fun a => a == Act.write Tbl.str))) = true ∧
    (Generated.C20.funcs.any (fun f => f.2.any (fun a => a == Act.read Tbl.str))) = true ∧
    (Generated.C20.funcs.any (fun f => f.2.any (fun a => a == Act.read Tbl.sym))) = true := by
  decide

/-- **Race freedom, every interleaving.** For any number of threads, each running any sequence of
    balanced functions, no reachable state of the transition system has two threads about to touch
    the same table with one of them writing. -/
theorem race_free_balanced (calls : List (List (List Act)))
    (hb : ∀ th ∈ calls, ∀ f ∈ th, balanced f = true) (s : Sys)
    (hr : Reach (initSys (calls.map List.flatten)) s) : ¬ Race s := by
  refine race_free _ (fun p hp => ?_) s hr
  obtain ⟨th, hth, rfl⟩ := List.mem_map.mp hp
  exact guarded_of_balanced (balanced_flatten th (hb th hth))

/-- **The code as extracted.** Threads that call the extracted functions of `hashtable.go` in any
    order, any number of times, under any schedule never race on the tables. -/
theorem race_free_generated (calls : List (List (List Act)))
    (hc : ∀ th ∈ calls, ∀ f ∈ th, f ∈ Generated.C20.funcs.map (·.2)) (s : Sys)
    (hr : Reach (initSys (calls.map List.flatten)) s) : ¬ Race s := by
  refine race_free_balanced calls (fun th hth f hf => ?_) s hr
  obtain ⟨g, hg, rfl⟩ := List.mem_map.mp (hc th hth f hf)
  exact List.all_eq_true.mp generated_balanced.1 g hg

-- what `SymHash2Str` did before its `fix:` commit in /repo: a read of `strTable` without the lock
example : balanced [Act.read Tbl.str] = false := by decide
example : balanced [.rlock, .read .str, .runlock] = true := by decide
-- a racy system is really expressible: unlocked reader next to a locked writer
example : Race { threads := [{ todo := [.write .str, .unlock], hr := false, hw := true },
                             { todo := [.read .str], hr := false, hw := false }],
                 readers := 0, writer := true } :=
  ⟨0, 1, _, _, .str, _, _, by decide, rfl, rfl, rfl, Or.inr rfl⟩

end Pangaea.C20
