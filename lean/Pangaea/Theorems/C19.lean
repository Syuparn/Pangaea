/- C19 — a fresh evaluation is independent of what the process evaluated before. -/
import Pangaea.Eval.Fresh
namespace Pangaea.C19
open Pangaea.Fresh

/-- with both mechanisms in place a program neither reads nor changes the process state (except constants,
    which are never assigned) -/
theorem run_repaired (prog : List Act) (own : List (String × Nat)) (P Q : Proc) (hc : P.consts = Q.consts) :
    (run repaired prog own P).1 = (run repaired prog own Q).1 ∧ (run repaired prog own P).2.2 = P := by
  induction prog generalizing own with
  | nil => exact ⟨rfl, rfl⟩
  | cons a rest ih =>
    cases a with
    | print s => exact ⟨congrArg (Obs.out s :: ·) (ih own).1, (ih own).2⟩
    | define x v => exact ih _
    | read x line =>
      simp only [run, lookup, hc]
      split
      · exact ⟨congrArg (Obs.val x _ :: ·) (ih own).1, (ih own).2⟩
      · exact ⟨rfl, rfl⟩
    | raiseShared line => exact ⟨rfl, rfl⟩

theorem runNext_repaired_state (prog : List Act) (P : Proc) : (runNext repaired prog P).2 = P := by
  simp only [runNext, repaired, if_true]
  exact (run_repaired prog [] P P rfl).2

theorem runAll_repaired (history : List (List Act)) (P : Proc) : runAll repaired history P = P := by
  induction history with
  | nil => rfl
  | cons h hs ih => rw [runAll, List.foldl_cons, runNext_repaired_state]; exact ih

/-- **History independence.** For every history of earlier programs (failing ones included) and every later
    program: its output, the values it sees, its error report and stack trace are those of a newly started
    interpreter. -/
theorem fresh_independent (consts : List (String × Nat)) (history : List (List Act)) (prog : List Act) :
    (runNext repaired prog (runAll repaired history (P0 consts))).1 = (runNext repaired prog (P0 consts)).1 := by
  rw [runAll_repaired]

/-- without the copy, the second program that raises `_` reports the first program's source line -/
example :
    let cfg : Cfg := { copyShared := false, freshScope := true }
    (runNext cfg [.raiseShared "prog2 line 1"] (runAll cfg [[.raiseShared "prog1 line 7"]] (P0 []))).1
      = [.err ["prog1 line 7", "prog2 line 1"]] := by decide
/-- with a shared scope (`pangaea test` before the repair) a variable of an earlier file is visible -/
example :
    let cfg : Cfg := { copyShared := true, freshScope := false }
    (runNext cfg [.read "a" "l1"] (runAll cfg [[.define "a" 1]] (P0 []))).1 = [.val "a" 1] := by decide
example :
    (runNext repaired [.print "x", .read "a" "l2"] (runAll repaired [[.define "a" 1], [.raiseShared "l1"]] (P0 []))).1
      = [.out "x", .err ["l2"]] := by decide
example :
    (runNext repaired [.define "a" 2, .read "a" "l2", .read "K" "l3", .raiseShared "l4"] (runAll repaired [[.define "a" 1]] (P0 [("K", 7)]))).1
      = [.val "a" 2, .val "K" 7, .err ["l4"]] := by decide

end Pangaea.C19
