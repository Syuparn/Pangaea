/- C06 — values are immutable: no operation changes an existing value (array values over Go slices).
   The theorems hold for every growth policy of the Go runtime, every history of array-producing
   operations. The inventory of in-place write sites of the real sources is regenerated on every run
   (Generated/C06.lean). -/
import Pangaea.Lemmas.GoHeap
import Pangaea.Generated.C06
namespace Pangaea.C06
open Pangaea.GoHeap

/-- the first disjunct: `[]` is published as `emptySlice`, whose `arr` is one past the heap -/
def OK (h : Heap) (p : Slice) : Prop := p.len = 0 ∨ p.arr < h.length

def AllOK (s : St) : Prop := ∀ p ∈ s.pub, OK s.heap p

theorem OK.mono {h h' : Heap} (hpre : h <+: h') {p : Slice} (hp : OK h p) : OK h' p :=
  hp.imp_right fun hw => Nat.lt_of_lt_of_le hw hpre.length_le

theorem fresh_new_ok (grow : Nat → Nat) (h : Heap) (xs : List Val) :
    OK (goAppend grow h (emptySlice h) xs).1 (goAppend grow h (emptySlice h) xs).2 := by
  rw [goAppend_emptySlice]
  split
  · exact .inl rfl
  · exact .inr (by simp)

theorem step_fresh (grow : Nat → Nat) (s : St) (op : Op) (hs : op.safe = true) :
    ∃ xs, (step grow s op).heap = (goAppend grow s.heap (emptySlice s.heap) xs).1 ∧
          (step grow s op).pub = s.pub ++ [(goAppend grow s.heap (emptySlice s.heap) xs).2] := by
  cases op with
  | plusInPlace a b => cases hs
  | lit | plus | slice => exact ⟨_, rfl, rfl⟩

theorem step_prefix (grow : Nat → Nat) (s : St) (op : Op) (hs : op.safe = true) :
    s.heap <+: (step grow s op).heap := by
  obtain ⟨xs, hh, _⟩ := step_fresh grow s op hs
  exact hh ▸ fresh_prefix grow s.heap xs

/-- **One step.** A safe operation leaves the contents of every published array value unchanged, whatever
    the growth policy. -/
theorem step_frozen (grow : Nat → Nat) (s : St) (op : Op) (hs : op.safe = true) (hok : AllOK s) :
    (∀ p ∈ s.pub, view (step grow s op).heap p = view s.heap p) ∧ AllOK (step grow s op) := by
  refine ⟨fun p hp => view_of_prefix (step_prefix grow s op hs) (hok p hp), fun p hp => ?_⟩
  obtain ⟨xs, hh, hpub⟩ := step_fresh grow s op hs
  rcases List.mem_append.1 (hpub ▸ hp) with h1 | h1
  · exact (hok p h1).mono (step_prefix grow s op hs)
  · rw [hh, List.mem_singleton.1 h1]; exact fresh_new_ok grow s.heap xs

theorem history_prefix (grow : Nat → Nat) (ops : List Op) (hs : ∀ op ∈ ops, op.safe = true) (s : St) :
    s.heap <+: (ops.foldl (step grow) s).heap := by
  induction ops generalizing s with
  | nil => exact List.prefix_refl _
  | cons op ops ih =>
    exact (step_prefix grow s op (hs op (.head _))).trans (ih (fun o ho => hs o (.tail _ ho)) _)

/-- **Every history.** After any sequence of safe operations, every value that existed at the start still has
    the same contents (and so has every value created on the way, from its creation on: apply the theorem
    to the state in which it was created). -/
theorem history_frozen (grow : Nat → Nat) (ops : List Op) (hs : ∀ op ∈ ops, op.safe = true) (s : St) (hok : AllOK s) :
    ∀ p ∈ s.pub, view (ops.foldl (step grow) s).heap p = view s.heap p :=
  fun p hp => view_of_prefix (history_prefix grow ops hs s) (hok p hp)

theorem plus_result (grow : Nat → Nat) (h : Heap) (a b : Slice) :
    view (plusFresh grow h a b).1 (plusFresh grow h a b).2 = view h a ++ view h b :=
  fresh_result grow h _

/-- **Generated obligation.** The in-place write sites of the sources (append onto a field of an existing
    value, indexed assignment into such a slice or map, AddPairs calls) are exactly the reviewed ones. -/
theorem write_sites_are_the_reviewed_ones : Generated.C06.writeSites = Generated.C06.reviewedSites := rfl

/-! Witness: the code before the repair (`append(self.Elems, other.Elems...)`) on the history
    `a := [1,2,3]; b := a + [4]; c := a + [5]` — `b` changes. -/
def s0 : St := { heap := [[1, 2, 3, 0], [4], [5]], pub := [⟨0, 3, 4⟩, ⟨1, 1, 1⟩, ⟨2, 1, 1⟩] }
example :
    let s1 := step id s0 (.plusInPlace 0 1)
    let s2 := step id s1 (.plusInPlace 0 2)
    view s1.heap (s1.pub.getD 3 ⟨0, 0, 0⟩) = [1, 2, 3, 4] ∧ view s2.heap (s1.pub.getD 3 ⟨0, 0, 0⟩) = [1, 2, 3, 5] := ⟨rfl, rfl⟩
example :
    let s1 := step id s0 (.plus 0 1)
    let s2 := step id s1 (.plus 0 2)
    view s1.heap (s1.pub.getD 3 ⟨0, 0, 0⟩) = [1, 2, 3, 4] ∧ view s2.heap (s1.pub.getD 3 ⟨0, 0, 0⟩) = [1, 2, 3, 4] := ⟨rfl, rfl⟩
example : AllOK s0 := by intro p hp; simp [s0] at hp; rcases hp with rfl | rfl | rfl <;> (right; decide)

end Pangaea.C06
