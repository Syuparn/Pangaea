/- C07, the implementation's side: the inventory of evaluation results that package evaluator never tests for an error,
   regenerated from evaluator/*.go on every run (extract/c07.go). Kept in its own module so that the theorems about
   the Core evaluator (used by C03, C04, C08, C12, C14, C15 as well) do not depend on the regenerated facts. -/
import Pangaea.Generated.C07
import Pangaea.Eval.ErrSites
namespace Pangaea.C07

/-- **Every evaluation result is checked.** The results of Eval-like calls that package evaluator never tests for an
    error are exactly the reviewed ones (conversion hooks, which the property excludes, and one unfinished feature). -/
theorem unchecked_results_are_the_reviewed_ones :
    Generated.C07.uncheckedResults = ErrSites.reviewed.map (·.1) ∧ Generated.C07.inspectedSites ≥ 40 :=
  ⟨rfl, by decide⟩

end Pangaea.C07
