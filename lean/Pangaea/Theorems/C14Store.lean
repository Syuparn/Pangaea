/- C14 — iterator identities persist: whatever is evaluated, every existing iterator keeps its identity and its code
   (parameters, keyword defaults, body); only the scope it points to can change (through its own `recur`), and new
   identities are appended. Instance of the invariance principle `allStable`. -/
import Pangaea.Lemmas.Stable
namespace Pangaea.C14
open Pangaea.Core

def SameCode (a b : IterSt) : Prop := b.params = a.params ∧ b.kwd = a.kwd ∧ b.body = a.body

def IterKeep (s s' : St) : Prop :=
  ∀ (j : Nat) (it : IterSt), s.iters[j]? = some it → ∃ it', s'.iters[j]? = some it' ∧ SameCode it it'

theorem iterKeep_append {s s' : St} {extra : List IterSt} (h : s'.iters = s.iters ++ extra) : IterKeep s s' := by
  intro j it hj
  obtain ⟨hlt, -⟩ := List.getElem?_eq_some_iff.1 hj
  exact ⟨it, by rw [h, List.getElem?_append_left hlt, hj], rfl, rfl, rfl⟩

theorem iterKeep_of_iters_eq {s s' : St} (h : s'.iters = s.iters) : IterKeep s s' :=
  iterKeep_append (extra := []) (by rw [h, List.append_nil])

theorem iterKeep_prim : PrimStable IterKeep where
  refl := fun _ => iterKeep_of_iters_eq rfl
  trans := by
    intro a b c hab hbc j it hj
    obtain ⟨it1, h1, c1⟩ := hab j it hj
    obtain ⟨it2, h2, c2⟩ := hbc j it1 h1
    exact ⟨it2, h2, c2.1.trans c1.1, c2.2.1.trans c1.2.1, c2.2.2.trans c1.2.2⟩
  setVar := fun _ _ _ _ => iterKeep_of_iters_eq rfl
  allocFrame := fun _ _ => iterKeep_of_iters_eq rfl
  copyFrame := fun _ _ => iterKeep_of_iters_eq rfl
  enterCall := fun _ _ _ _ _ _ => iterKeep_of_iters_eq rfl
  printLine := fun _ _ => iterKeep_of_iters_eq rfl
  readLine := fun s => by unfold readLine; cases s.inp <;> exact iterKeep_of_iters_eq rfl
  newIter := fun _ _ _ _ _ => iterKeep_append rfl
  copyIter := fun _ _ => iterKeep_append rfl
  -- the entry at `id` changes its scope only
  repointIter := fun id _ s j it hj =>
    ⟨_, by rw [repointIter, List.getElem?_modify, hj]; rfl, by split <;> exact ⟨rfl, rfl, rfl⟩⟩

/-- **Iterators keep their identity and code.** For every expression, scope, state and fuel. -/
theorem iterators_keep_identity_and_code (fuel : Nat) (e : Expr) (env : Nat) (s : St) : IterKeep s (evalE fuel e env s).2 :=
  (allStable iterKeep_prim fuel).evalE e env s

theorem next_keeps_identity_and_code (fuel : Nat) (id : Nat) (s : St) : IterKeep s (iterNext fuel id s).2 :=
  (allStable iterKeep_prim fuel).iterNext id s

end Pangaea.C14
