/- C04 — chain contexts apply their documented per-element rule in all three call forms.
   All theorems hold for every callee (`call`/`fn` are arbitrary functions, results may be nil or an
   error), every element list, every way the iterator ends, every digest, every argument list. -/
import Pangaea.Lemmas.Chain
namespace Pangaea.C04
open Pangaea.Chain Pangaea.ChainLemmas

/-- **List chains, literal/variable call.** `@`, `&@`, `=@`, `~@` over elements `e1..en`: results of
    the per-element rule in order; the first failing result stops the chain; `@`/`&@` drop nil results,
    `=@`/`~@` keep them; the chain argument digests the collected results. -/
theorem lit_list_spec (a : Add) (fn : LH) (digest : Val → List Val → Val) (recv : Val) (it : Iter) (chainArg : Val) :
    litChain .list a fn digest recv it chainArg = specList a fn digest it chainArg := by
  rw [specList, ← funext (lAdd_elemRule a fn)]
  cases a with
  | vanilla | lonely => exact lSquash_spec ..
  | thoughtful | strict => exact lKeep_spec ..

/-- **List chains, property call.** Same rule with `f e = call e args`. -/
theorem prop_list_spec (a : Add) (call : PH) (digest : Val → List Val → Val) (recv : Val) (it : Iter)
    (chainArg : Val) (args : List Val) :
    propChain .list a call digest recv it chainArg args =
      specList a (fun e => call e args) digest it chainArg := by
  rw [specList, ← funext fun r => pAdd_elemRule a call r args]
  cases a with
  | vanilla | lonely => exact listLoop_spec (sq := true) (fun _ => rfl) (fun _ _ _ => rfl) it.elems []
  | thoughtful | strict => exact listLoop_spec (sq := false) (fun _ => rfl) (fun _ _ _ => rfl) it.elems []

/-- **Scalar chains** apply the same additional-context rule to the single receiver (both forms). -/
theorem scalar_spec (a : Add) (call : PH) (fn : LH) (digest : Val → List Val → Val) (recv : Val) (it : Iter)
    (chainArg : Val) (args : List Val) :
    propChain .scalar a call digest recv it chainArg args = elemRule a (fun r => call r args) recv ∧
    litChain .scalar a fn digest recv it chainArg = elemRule a fn recv :=
  ⟨pAdd_elemRule .., lAdd_elemRule ..⟩

/-- **Reduce chains, property call** (`$`, `=$`, `~$`): left fold from the chain argument passing the
    accumulator and the element; a failing step stops the fold; `~$` keeps the accumulator when the step
    is nil or fails. -/
theorem prop_reduce_spec (a : Add) (ha : a ≠ .lonely) (call : PH) (digest : Val → List Val → Val)
    (recv : Val) (it : Iter) (chainArg : Val) (args : List Val) (hinit : chainArg.isErr = false) :
    propChain .reduce a call digest recv it chainArg args =
      specReduce a (fun acc e => call acc (e :: args)) it chainArg :=
  pReduce_spec
    (fun acc e h => (specReduceStep_eq_elemRule ha _ h e).trans (pAdd_elemRule a call acc (e :: args)).symm)
    it.stop it.elems chainArg hinit

/-- **Reduce chains, literal/variable call** (`$`, `=$`, `~$`, and `&$` which never skips because the
    literal's receiver `[acc, e]` is never nil). -/
theorem lit_reduce_spec (a : Add) (fn : LH) (digest : Val → List Val → Val) (recv : Val) (it : Iter)
    (chainArg : Val) (hinit : chainArg.isErr = false) :
    litChain .reduce a fn digest recv it chainArg =
      specReduce (if a = .lonely then .vanilla else a) (fun acc e => fn (.arr [acc, e])) it chainArg := by
  cases a with
  | thoughtful => exact lThoughtfulReduce_spec fn _ _ _ hinit
  | vanilla | lonely | strict =>
    exact lReduce_spec (fun _ e h => specReduceStep_eq_elemRule (by decide) _ h e) _ _ _ hinit

/-- **Three forms agree, list and scalar contexts.** A property call equals the literal call of
    `{|x| x.prop(args)}` (and hence the variable call of that function: `evalVarCall` and
    `evalLiteralCall` run the same middleware stack) in all eight list/scalar contexts. -/
theorem forms_agree_list_scalar (m : Main) (hm : m ≠ .reduce) (a : Add) (call : PH)
    (digest : Val → List Val → Val) (recv : Val) (it : Iter) (chainArg : Val) (args : List Val) :
    propChain m a call digest recv it chainArg args =
      litChain m a (litOfList call args) digest recv it chainArg := by
  cases m with
  | reduce => exact absurd rfl hm
  | scalar =>
    have h := scalar_spec a call (litOfList call args) digest recv it chainArg args
    exact h.1.trans h.2.symm
  | list => exact (prop_list_spec ..).trans (lit_list_spec ..).symm

/-- **Three forms agree, reduce contexts** except the lonely reduce chain: a property call equals the
    literal call of `{|acc, x| acc.prop(x, args)}`. -/
theorem forms_agree_reduce (a : Add) (ha : a ≠ .lonely) (call : PH) (digest : Val → List Val → Val)
    (recv : Val) (it : Iter) (chainArg : Val) (args : List Val) (hinit : chainArg.isErr = false) :
    propChain .reduce a call digest recv it chainArg args =
      litChain .reduce a (litOfReduce call args) digest recv it chainArg := by
  rw [prop_reduce_spec a ha call digest recv it chainArg args hinit,
      lit_reduce_spec a (litOfReduce call args) digest recv it chainArg hinit, if_neg ha]
  rfl

/-- **A raise at any element stops list and reduce chains** (shared with C07): if the call fails at
    element k and at no earlier one, a plain list chain evaluates to that error. -/
theorem list_chain_fail_stop (a : Add) (ha : a = .vanilla ∨ a = .strict) (fn : LH) (digest : Val → List Val → Val)
    (recv : Val) (pre post : List Val) (e : Val) (chainArg : Val)
    (hpre : ∀ x ∈ pre, (fn x).isErr = false) (he : (fn e).isErr = true) (stop : Option Val) :
    litChain .list a fn digest recv ⟨pre ++ e :: post, stop⟩ chainArg = fn e := by
  have hr : elemRule a fn = fn := by rcases ha with rfl | rfl <;> rfl
  rw [lit_list_spec, specList, hr, List.map_append, List.map_cons,
    firstErr_append_cons (fun x hx => ?_) he]
  · rfl
  · obtain ⟨y, hy, rfl⟩ := List.mem_map.1 hx
    exact hpre y hy

def nilOnTwo : PH := fun acc a => match a with | [.int 2] => .nil | _ => acc
-- the README's `~$` shape: a step returning nil keeps the accumulator in both forms
example : propChain .reduce .thoughtful nilOnTwo (fun _ xs => .arr xs) .nil ⟨[.int 1, .int 2], none⟩ (.int 7) [] = .int 7 := rfl
example : litChain .reduce .thoughtful (litOfReduce nilOnTwo []) (fun _ xs => .arr xs) .nil ⟨[.int 1, .int 2], none⟩ (.int 7) = .int 7 := rfl
-- `=@` raises at a failing element; the error is not stored as an element
def failOnTwo : LH := fun x => match x with | .int 2 => .err "ZeroDivisionErr" | v => v
example : litChain .list .strict failOnTwo (fun _ xs => .arr xs) .nil ⟨[.int 1, .int 2, .int 3], none⟩ .nil = .err "ZeroDivisionErr" := rfl
-- the lonely reduce chain really differs between the forms (why the property excludes it)
def addOne : PH := fun acc _ => match acc with | .int n => .int (n + 1) | _ => .int 0
example : propChain .reduce .lonely addOne (fun _ xs => .arr xs) .nil ⟨[.int 5], none⟩ .nil [] = .nil := rfl
example : litChain .reduce .lonely (litOfReduce addOne []) (fun _ xs => .arr xs) .nil ⟨[.int 5], none⟩ .nil = .int 0 := rfl

end Pangaea.C04
