/- C14 on the Core reference evaluator: a list chain over ANY source - the remaining elements of an array, a copy of an
   iterator, standard input - visits exactly the values successive `next` steps return, in order, up to the first
   "no more elements" (for an iterator: the first StopIterErr), calling the property once per value; and the iterator
   the chain was applied to is not the one that is stepped (`srcOf` makes a copy: `C14.chain_source_is_copy`).
   The sequential specification and its equivalence with the evaluator's loops, for any source, are in
   Theorems/C04Core.lean (`SrcListRun`, `list_chain_src`, `srcListRun_of_loop`, and the same for reduce chains); here
   is what is particular to a source that is an iterator. -/
import Pangaea.Theorems.C04Core
import Pangaea.Theorems.C14
namespace Pangaea.C14
open Pangaea.Core Pangaea.C04

/-- for an iterator source, a step is a `next` of that iterator -/
theorem next_of_iter_value {id : Nat} {s s' : St} {v : Val} (h : ∃ fuel, iterNext fuel id s = (.ok v, s')) :
    NextGives (.iter id) s (some (v, .iter id)) s' := by
  obtain ⟨f, hf⟩ := h; exact ⟨f + 1, chain_visits_next id v hf⟩

theorem next_of_iter_stop {id : Nat} {s s' : St} {msg : String} (h : ∃ fuel, iterNext fuel id s = (.err "StopIterErr" msg, s')) :
    NextGives (.iter id) s none s' := by
  obtain ⟨f, hf⟩ := h; exact ⟨f + 1, chain_stops_at_stopiter id msg hf⟩

theorem next_of_iter_error {id : Nat} {s s' : St} {k msg : String} (hk : (k == "StopIterErr") = false)
    (h : ∃ fuel, iterNext fuel id s = (.err k msg, s')) : NextRaises (.iter id) s k msg s' := by
  obtain ⟨f, hf⟩ := h; exact ⟨f + 1, chain_passes_other_errors id k msg hk hf⟩

/-- the state in which the chain's own copy of iterator `it` exists (identity `s.iters.length`, a copied scope) -/
def withCopy (s : St) (it : IterSt) : St :=
  { s with frames := s.frames ++ [s.frames.getD it.env default], iters := s.iters ++ [{ it with env := s.frames.length }] }

/-- the chain expression over an iterator value steps a COPY: the source is a new identity with a copied scope, the
    iterator the chain was applied to keeps its entry, and the result is the array of the collected values -/
theorem list_chain_over_iterator {a : Add} {name : String} {args : List Val} {kwargs : List (String × Val)} {env : Nat}
    {id : Nat} {it : IterSt} {s s' : St} {vs : List Val} (hid : s.iters[id]? = some it)
    (h : SrcListRun a name args kwargs env (.iter s.iters.length) [] (withCopy s it) (.ok vs) s') :
    ∃ fuel, propChain fuel .list a (.iter id) .nil name args kwargs env s = (.ok (.arr vs), s') :=
  list_chain_of_src (.of_succ (.of_forall fun _ => chain_source_is_copy id it hid)) h

/-- the original iterator's entry is untouched by taking the copy -/
theorem copy_keeps_original {id : Nat} {it : IterSt} {s : St} (hid : s.iters[id]? = some it) :
    (withCopy s it).iters[id]? = some it := by
  simp [withCopy, List.getElem?_append_left (List.getElem?_eq_some_iff.1 hid).1, hid]

end Pangaea.C14
