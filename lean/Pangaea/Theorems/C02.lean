/- C02 — expressions group by the documented precedence and associativity.
   Theorems about yacc's shift-reduce resolution, for an arbitrary precedence function and any number of
   operators; then finite obligations over facts regenerated from parser/parser.go.y and goyacc's
   y.output (Generated/C02.lean): the ladder, the %prec annotations, the infix rules, and a translation
   validation of goyacc's resolved action table against the precedence rule. -/
import Pangaea.Lemmas.Prec
import Pangaea.Generated.C02
namespace Pangaea.C02
open Pangaea.Prec Pangaea.Table

/-- **Grouping.** For every operand/operator string, the shift-reduce machine that resolves
    `expr p expr .` against lookahead `o` by "shift iff `o` binds tighter" builds a tree that is
    canonical (every right operand binds strictly tighter than its parent, every left operand at least
    as tight: higher levels group first, equal levels group left-to-right) and whose in-order token
    string is the input. -/
theorem infix_grouping {Op Atom : Type} (prec : Op → Nat) (a0 : Atom) (ws : List (Op × Atom)) :
    canonical prec (sr prec [] (.atom a0) ws) ∧
    first (sr prec [] (.atom a0) ws) = a0 ∧ tail (sr prec [] (.atom a0) ws) = ws := by
  rw [sr_eq_build]; exact build_sound prec a0 ws

/-- **Uniqueness / parentheses.** A canonical tree is exactly what the parser builds from its own
    token string: writing the parentheses the table implies (any canonical tree) and erasing them again
    never changes the parse, and the documented grouping is the only canonical one. -/
theorem implied_parentheses {Op Atom : Type} (prec : Op → Nat) (t : Tree Op Atom) (hc : canonical prec t) :
    sr prec [] (.atom (first t)) (tail t) = t := by
  rw [sr_eq_build]; exact build_complete prec t hc

theorem grouping_unique {Op Atom : Type} (prec : Op → Nat) (t t' : Tree Op Atom)
    (hc : canonical prec t) (hc' : canonical prec t') (h1 : first t = first t') (h2 : tail t = tail t') : t = t' := by
  rw [← build_complete prec t hc, ← build_complete prec t' hc', h1, h2]

def sameSet (xs ys : List (String × String)) : Bool := xs.all (ys.contains ·) && ys.all (xs.contains ·)

theorem ladder_is_documented : Generated.C02.ladder = expectedLadder := rfl

theorem prec_annotations : sameSet Generated.C02.precAnnotations expectedPrec = true := by decide

/-- all 23 infix operators have a rule `expr OP expr` without `%prec`, at a `%left` level -/
theorem infix_rules :
    (infixOps.all (fun o => Generated.C02.infixRules.contains (o.2, false))) = true ∧
    Generated.C02.infixRules.length = 23 ∧
    (Generated.C02.infixRules.all (fun r => assocIn Generated.C02.ladder r.1 == some .left)) = true := by decide

/-- the rules whose grouping is decided by precedence (the property's constructs) -/
def exprHeads : List String := ["infixExpr", "prefixExpr", "ifExpr", "assignExpr", "jumpStmt", "jumpIfStmt"]

def relevant : List (Nat × String × Nat × String × Nat × Bool × Bool) :=
  Generated.C02.resolved.filter (fun r => exprHeads.any (fun h => r.2.1.startsWith (h ++ ":")))

/-- states of the generated LALR tables whose action differs from the precedence rule -/
def mismatches : List (String × String × Bool) :=
  (relevant.filter (fun r =>
    let (_, _, rl, _, tl, right, act) := r
    act != resolveShift rl tl (if right then .right else .left))).map (fun r => (r.2.1, r.2.2.2.1, r.2.2.2.2.2.2))

/-- What the next two theorems say about the generated table, in one statement: almost all of the evaluation is
    turning the rule string of each of its 1100 rows into bytes for `startsWith`, and within one declaration the
    kernel does that once for `relevant`. -/
theorem table_checked :
    relevant.length ≥ 900 ∧ mismatches = [("jumpIfStmt: jumpStmt IF expr", "IF", true)] := by
  decide +kernel

/-- **Translation validation of goyacc.** In every LALR state with a completed rule that has a
    precedence level, for every lookahead token with a level, the generated action (shift / reduce) is
    the one the precedence rule gives — except `jumpStmt IF expr .` on `IF`, which is no conflict at all
    (`IF ∉ FOLLOW(stmt)`: the only action is the shift; `return a if b if c` reads `return a if (b if c)`).
    The committed `y.go` is what goyacc generates from the grammar, and the three remaining shift/reduce
    conflicts are the documented ones on `LPAREN`. -/
theorem tables_follow_precedence :
    mismatches = [("jumpIfStmt: jumpStmt IF expr", "IF", true)] ∧
    Generated.C02.tablesMatchGrammar = true ∧ Generated.C02.srConflicts = 3 ∧ Generated.C02.unmatched = [] :=
  ⟨table_checked.2, by decide⟩

theorem tables_nonempty : relevant.length ≥ 900 := table_checked.1

-- `a + b * c - d` at the documented levels (the positions of PLUS / MINUS and STAR in the ladder)
def lvl : String → Nat := fun o => if o = "*" then 13 else 12
example : sr lvl [] (.atom "a") [("+", "b"), ("*", "c"), ("-", "d")] =
    .bin "-" (.bin "+" (.atom "a") (.bin "*" (.atom "b") (.atom "c"))) (.atom "d") := by decide

end Pangaea.C02
