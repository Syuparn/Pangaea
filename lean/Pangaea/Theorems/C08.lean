/- C08 — evaluation order and reproducibility, over the Core reference evaluator.
   The reference evaluator is a function of (program, stdin): its order of evaluation is the order of its
   definition (receiver, chain argument, arguments, keyword arguments; elements; pairs; pieces — see
   Core/Eval.lean, tied to the implementation by side-effecting generated programs). What the theorems add:
   results do not depend on the iteration order of Go maps — binding keyword parameters / keyword variables
   over any permutation of the pairs gives the same scope, an object prints the same whatever the order of
   its pairs, duplicate names resolve to the first occurrence. -/
import Pangaea.Lemmas.Bind
import Pangaea.Lemmas.Names
namespace Pangaea.C08
open Pangaea.Core Pangaea.Dict

/-! ### loops over a Go map: any visiting order gives the same scope -/
theorem lookup_perm (l l' : List (String × Val)) (hp : l.Perm l') (hnd : (l.map (·.1)).Nodup) (k : String) :
    l.lookup k = l'.lookup k := by
  cases h : l.lookup k with
  | some v => exact (lookup_of_mem ((hp.map _).nodup hnd) (hp.mem_iff.1 (mem_of_lookup h))).symm
  | none =>
    rw [List.lookup_eq_none_iff] at h
    exact (List.lookup_eq_none_iff.2 fun p hp' => h p (hp.mem_iff.2 hp')).symm

/-- writes to distinct names can be made in any order -/
theorem lookup_writeAll_perm {ws ws' : List (String × Val)} (hp : ws.Perm ws') (hnd : (ws.map (·.1)).Nodup)
    (acc : List (String × Val)) (y : String) : (writeAll ws acc).lookup y = (writeAll ws' acc).lookup y := by
  rw [lookup_writeAll, lookup_writeAll, lookup_perm _ _ ((List.reverse_perm ws).trans (hp.trans (List.reverse_perm ws').symm))
    (nodup_keys_reverse hnd)]

/-- `for symHash, defaultPair := range *kwargParams.Pairs` (assignArgsToEnv): the order in which Go visits the
    keyword parameters does not matter -/
theorem kwparams_any_order (kwargs kwd kwd' acc : List (String × Val)) (hp : kwd.Perm kwd')
    (hnd : (kwd.map (·.1)).Nodup) (y : String) :
    (bindKwParams kwargs kwd acc).lookup y = (bindKwParams kwargs kwd' acc).lookup y := by
  rw [bindKwParams_eq, bindKwParams_eq]
  exact lookup_writeAll_perm (hp.map _) (by rw [List.map_map]; exact hnd) acc y

/-- `for _, kwargPair := range *kwargs.Pairs`: the same for the `\\name` variables -/
theorem kwvars_any_order (kwargs kwargs' acc : List (String × Val)) (hp : kwargs.Perm kwargs')
    (hnd : (kwargs.map (·.1)).Nodup) (y : String) :
    (bindKwVars kwargs acc).lookup y = (bindKwVars kwargs' acc).lookup y := by
  rw [bindKwVars_eq, bindKwVars_eq]
  exact lookup_writeAll_perm (hp.map _) (nodup_keys_backslash hnd) acc y

/-! ### printing: sorted by name, so independent of the order of the pairs -/
/-- the printed order of names is a function of the set of names -/
theorem sortNames_eq_of_perm (ns ns' : List String) (hp : ns.Perm ns') : sortNames ns = sortNames ns' :=
  List.Perm.eq_of_pairwise (fun _ _ _ _ hab hba => String.le_antisymm hab hba)
    (sortNames_sorted ns) (sortNames_sorted ns')
    ((sortNames_perm ns).trans (hp.trans (sortNames_perm ns').symm))

/-- **Printing is layout-independent.** Two objects with the same pairs in different order print the same. -/
theorem sortPairs_perm (ps qs : List (String × Val)) (hp : ps.Perm qs) (hnd : (ps.map (·.1)).Nodup) :
    sortPairs ps = sortPairs qs := by
  unfold sortPairs
  rw [sortNames_eq_of_perm _ _ (hp.map _)]
  congr 1
  funext k
  rw [lookup_perm ps qs hp hnd k]

/-! ### duplicates: the first occurrence wins (keyword arguments, object keys, `**` unpacking) -/
theorem addFirst_other (ps : List (String × Val)) (k k' : String) (v w : Val) (h : ps.lookup k = some v) :
    (addFirst ps k' w).lookup k = some v := by
  unfold addFirst; split
  · exact h
  · rw [List.lookup_append, h, Option.some_or]

theorem addFirst_keeps (ps : List (String × Val)) (k : String) (v w : Val) (h : ps.lookup k = some v) :
    (addFirst ps k w).lookup k = some v :=
  addFirst_other ps k k v w h

theorem addAllFirst_keeps (qs ps : List (String × Val)) (k : String) (v : Val) (h : ps.lookup k = some v) :
    (addAllFirst ps qs).lookup k = some v := by
  induction qs generalizing ps with
  | nil => exact h
  | cons q rest ih => exact ih _ (addFirst_other ps k q.1 v q.2 h)

end Pangaea.C08
