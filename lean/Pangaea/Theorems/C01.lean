/- C01 — no host-level crash: every program ends in a value or a Pangaea error.
   (1) finite obligations over facts REGENERATED from the sources (Generated/C01.lean): every built-in
       prototype shell is initialised before user code can name it; every built-in closure indexes its
       argument slice only below the length its guards establish;
   (2) component theorems: the indexing / slicing code never panics, for every input (from C11).
   The rest of the interpreter is covered by exploration (registry sweep, program generator): see DESIGN.md. -/
import Pangaea.Generated.C01
import Pangaea.Object.Assertions
import Pangaea.Theorems.C11
namespace Pangaea.C01
open Pangaea Pangaea.Index Pangaea.IndexSpec

/-- **Built-in table.** Every `var X = &PanObj{}` shell of package object is filled by `init()`
    (an unfilled shell has a nil property map: the first property call on it dereferences nil). -/
theorem builtins_initialised :
    (Generated.C01.declaredObjs.all (fun o => Generated.C01.initialisedObjs.contains o)) = true ∧
    Generated.C01.declaredObjs.length ≥ 30 := by decide +kernel

/-- every constant bound by NewEnvWithConsts that is such a shell is initialised -/
theorem bound_consts_initialised :
    (Generated.C01.boundConsts.all (fun c => !Generated.C01.declaredObjs.contains c || Generated.C01.initialisedObjs.contains c)) = true := by
  decide +kernel

/-- **Arity guards.** In every built-in closure `func(env, kwargs, args ...)`, every constant index `args[i]`
    that is not under its own `len(args) >= k` / `switch len(args)` guard is below the `k` of the closure's
    `len(args) < k` check (directly or through a checking helper). -/
theorem arity_guards :
    (Generated.C01.arityGuards.all (fun g => g.2.2 < g.2.1)) = true ∧ Generated.C01.arityGuards.length ≥ 100 := by
  -- on a table of this length the elaborator's own `decide` runs into the recursion limit
  decide +kernel

/-- **Unchecked type assertions.** The single-value type assertions of the interpreter's packages are exactly the
    reviewed ones (Object/Assertions.lean gives, for each, the guard or invariant that makes it safe). -/
theorem unchecked_assertions_are_the_reviewed_ones :
    Generated.C01.uncheckedAssertions = Assertions.reviewed.map (·.1) := rfl

/-- **Indexing never panics**: for every sequence, all int64-or-omitted bounds and every step, `valRange` and
    `strRange` return a value or ValueErr, never a Go panic (unchecked assertions of strRange included). -/
theorem valRange_never_panics {α} (xs : List α) (hn : C11.SizeOk xs.length) (start stop step : Bound)
    (u1 : C11.Usable start) (u2 : C11.Usable stop) (u3 : C11.Usable step)
    (h1 : C11.BoundOk start) (h2 : C11.BoundOk stop) (h3 : C11.BoundOk step) :
    valRange xs start stop step ≠ .panic := by
  rw [C11.valRange_spec xs hn start stop step u1 u2 u3 h1 h2 h3]
  generalize specSlice xs (IndexLemmas.toOpt start) (IndexLemmas.toOpt stop) (stepOf step) = r
  cases r <;> simp [C11.expectArr]

theorem strRange_never_panics (cs : List Char) (hn : C11.SizeOk cs.length) (start stop step : Bound)
    (u1 : C11.Usable start) (u2 : C11.Usable stop) (u3 : C11.Usable step)
    (h1 : C11.BoundOk start) (h2 : C11.BoundOk stop) (h3 : C11.BoundOk step) :
    strRange cs start stop step ≠ .panic := by
  rw [C11.strRange_spec cs hn start stop step u1 u2 u3 h1 h2 h3]
  generalize specSlice cs (IndexLemmas.toOpt start) (IndexLemmas.toOpt stop) (stepOf step) = r
  cases r <;> simp [C11.expectStr]

theorem arrIndex_never_panics {α} (xs : List α) (hn : C11.SizeOk xs.length) (i : Int) (hi : fits64 i) :
    arrIndex i xs ≠ .panic := by
  rw [C11.arrIndex_eq_spec xs hn i hi]; simp

end Pangaea.C01
