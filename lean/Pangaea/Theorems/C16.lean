/- C16 — parsing does not depend on layout volume, token length or input chunking. -/
import Pangaea.Lemmas.Lexer
import Pangaea.Generated.C16
namespace Pangaea.C16
open Pangaea.Lexer

/-- **Chunking.** However the reader splits the bytes into reads (any sizes, empty reads included,
    EOF reported with or after the last bytes), the lexer's buffer is the same byte string. -/
theorem readAll_chunks (bytes : List UInt8) (sizes : List Nat) :
    readAll (chunksOf bytes sizes) = bytes := by
  induction sizes generalizing bytes with
  | nil => simp [chunksOf, readAll]
  | cons n ns ih => simp [chunksOf, readAll, ih, List.take_append_drop]

theorem readAll_any_two_chunkings (bytes : List UInt8) (s1 s2 : List Nat) :
    readAll (chunksOf bytes s1) = readAll (chunksOf bytes s2) := by
  rw [readAll_chunks, readAll_chunks]

/-- **Layout volume.** A run of any number (≥ 1) of blank / comment lines with any surrounding blanks,
    followed by something that does not start another layout line, is consumed as exactly one RET token
    leaving exactly that continuation: the padding volume cannot change the token stream. -/
theorem ret_run (l : LLine) (ls : List LLine) (k : List Char) (hk : line k = none) :
    matchRET (runChars (l :: ls) ++ k) = some k := by
  simp only [matchRET, line_runChars_cons]
  rw [afterRET_run (l :: ls) k hk]

/-- **Multi-line chains.** The same run followed by blanks and `|.`-style continuation is one
    MULTILINE_*_CHAIN token, for any run length. -/
theorem multiline_run (isChain : Char → Bool) (l : LLine) (ls : List LLine) (ws : List Char) (c : Char)
    (rest : List Char) (hws : ∀ c ∈ ws, isWs c = true) (hc : isChain c = true) :
    matchMultiline isChain (runChars (l :: ls) ++ (ws ++ '|' :: c :: rest)) = some rest := by
  have hsk : skipWs (ws ++ '|' :: c :: rest) = '|' :: c :: rest := skipWs_append _ hws (by rfl)
  have hk : line (ws ++ '|' :: c :: rest) = none := by rw [line, hsk]; rfl
  rw [matchMultiline, line_runChars_cons]
  simp only [afterRET_run (l :: ls) _ hk, hsk, hc, if_true]

/-- **Comments of any length** are one token up to (not including) the line end. -/
theorem comment_any_length (body : List Char) (nl : Char) (rest : List Char)
    (hb : ∀ c ∈ body, isNl c = false) (hn : isNl nl = true) :
    matchComment ('#' :: body ++ nl :: rest) = some (nl :: rest) :=
  congrArg some (skipBody_append rest hb hn)

theorem dqBody_plain (body : List Char) (rest : List Char)
    (hb : ∀ c ∈ body, c ≠ '"' ∧ c ≠ '\\' ∧ isNl c = false) :
    dqBody (body ++ '"' :: rest) = some rest := by
  induction body with
  | nil => rfl
  | cons c cs ih =>
    obtain ⟨h1, h2, h3⟩ := hb c List.mem_cons_self
    rw [List.cons_append, dqBody.eq_3 c _ (fun _ h _ => h2 h) h1, h3]
    exact ih fun d hd => hb d (List.mem_cons_of_mem _ hd)

/-- **Double-quoted strings of any length** (no quote, backslash or line end inside) are one token
    with their full text. -/
theorem dq_any_length (body rest : List Char) (hb : ∀ c ∈ body, c ≠ '"' ∧ c ≠ '\\' ∧ isNl c = false) :
    matchDQ ('"' :: body ++ '"' :: rest) = some rest :=
  dqBody_plain body rest hb

theorem bqBody_plain (body : List Char) (rest : List Char) (hb : ∀ c ∈ body, c ≠ '`' ∧ c ≠ '\\') :
    bqBody (body ++ '`' :: rest) = some rest := by
  induction body with
  | nil => rfl
  | cons c cs ih =>
    obtain ⟨h1, h2⟩ := hb c List.mem_cons_self
    rw [List.cons_append, bqBody.eq_3 c _ (fun _ h _ => h2 h) h1]
    exact ih fun d hd => hb d (List.mem_cons_of_mem _ hd)

/-- **Raw strings of any length** (line breaks allowed) are one token with their full text. -/
theorem bq_any_length (body rest : List Char) (hb : ∀ c ∈ body, c ≠ '`' ∧ c ≠ '\\') :
    matchBQ ('`' :: body ++ '`' :: rest) = some rest :=
  bqBody_plain body rest hb

/-- **Identifiers of any length** are one token with their full text. -/
theorem ident_any_length (c : Char) (cs : List Char) (d : Char) (rest : List Char)
    (hc : isIdentStart c = true) (hcs : ∀ c ∈ cs, isIdentChar c = true)
    (hd : isIdentChar d = false) (hd1 : d ≠ '!') (hd2 : d ≠ '?') :
    matchIdent (c :: cs ++ d :: rest) = some (d :: rest) := by
  simp only [matchIdent, List.cons_append, hc, if_true]
  rw [skipIdentChars_eq_dropWhile, dropWhile_append_cons rest hcs hd]
  split
  · next h => cases h; exact absurd rfl hd1
  · next h => cases h; exact absurd rfl hd2
  · rfl

/-- **Generated obligation.** The regular expressions the matchers were transcribed from are the ones
    the lexer uses now (regenerated from `parser.VerifTokenTypes()` on every run). -/
theorem regexes_are_the_transcribed_ones :
    Generated.C16.tokenTable.lookup "RET" = some "^(?:(([ \\t]*(#[^\\n\\r]*)?(\\r|\\n|\\r\\n))+|#[^\\n\\r]*))" ∧
    Generated.C16.tokenTable.lookup "MULTILINE_MAIN_CHAIN" = some "^(?:([ \\t]*(#[^\\n\\r]*)?(\\r|\\n|\\r\\n))+[ \\t]*\\|[\\.@$])" ∧
    Generated.C16.tokenTable.lookup "MULTILINE_ADD_CHAIN" = some "^(?:([ \\t]*(#[^\\n\\r]*)?(\\r|\\n|\\r\\n))+[ \\t]*\\|[&~=])" ∧
    Generated.C16.tokenTable.lookup "DOUBLEQUOTE_STR" = some "^(?:\"(\\\\\\\"|[^\\\"\\n\\r])*\")" ∧
    Generated.C16.tokenTable.lookup "BACKQUOTE_STR" = some "^(?:`(\\\\`|[^`])*`)" ∧
    Generated.C16.tokenTable.lookup "IDENT" = some "^(?:[a-zA-Z][a-zA-Z0-9_]*[!?]?)" := by
  decide

example : matchRET "  \n# c\n\t\nfoo".toList = some "foo".toList := by decide
example : matchRET "\n   foo".toList = some "   foo".toList := by decide
example : matchMultiline isMainChain "\n  # c\n  |.b".toList = some "b".toList := by decide
example : matchDQ "\"a\\\"b\" x".toList = some " x".toList := by decide
example : readAll (chunksOf [1, 2, 3, 4, 5] [2, 0, 1]) = [1, 2, 3, 4, 5] := by decide

end Pangaea.C16
