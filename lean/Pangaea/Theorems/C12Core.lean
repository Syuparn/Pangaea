/- C12 on the Core reference evaluator (the evaluator that is run against the implementation on generated
   programs through the real parser): exactly one branch of an if-expression is evaluated, `&&` / `||` return the
   deciding operand itself and evaluate the right operand only when the left one does not decide, and the guard of
   `return / raise / yield / defer … if c` is evaluated when the statement is reached. Stated without fuel
   (Lemmas/Fuel.lean: fuel monotonicity, `Ev`): the final STATE of the whole expression is the state reached
   by the evaluated parts only, for every choice of the unevaluated part. -/
import Pangaea.Theorems.C07Any
namespace Pangaea.C12
open Pangaea.Core Pangaea.C07

/-- `e` ends with outcome `r` (not an exhausted budget) in state `s'` -/
def EndsE (e : Expr) (env : Nat) (s : St) (r : R Val) (s' : St) : Prop := ∃ fuel, evalE fuel e env s = (r, s') ∧ r.notFuel

theorem EndsE.of_gives {e : Expr} {env : Nat} {s s' : St} {v : Val} (h : GivesE e env s v s') : EndsE e env s (.ok v) s' := by
  obtain ⟨f, hf⟩ := h; exact ⟨f, hf, by simp [R.notFuel]⟩

theorem EndsE.of_raises {e : Expr} {env : Nat} {s s' : St} {k m : String} (h : RaisesE e env s k m s') : EndsE e env s (.err k m) s' := by
  obtain ⟨f, hf⟩ := h; exact ⟨f, hf, by simp [R.notFuel]⟩

theorem EndsE.ev {e : Expr} {env : Nat} {s s' : St} {r : R Val} (h : EndsE e env s r s') : Ev (evalE · e env) s r s' :=
  h.elim fun f hf => (mono_evalE e env).ev ⟨f, hf.1⟩ hf.2

theorem EndsE.notFuel {e : Expr} {env : Nat} {s s' : St} {r : R Val} (h : EndsE e env s r s') : r.notFuel :=
  h.elim fun _ hf => hf.2

theorem EndsE.of_ev {e : Expr} {env : Nat} {s s' : St} {r : R Val} (h : Ev (evalE · e env) s r s') (hr : r.notFuel) :
    EndsE e env s r s' :=
  h.exists_fuel.elim fun n hn => ⟨n, hn, hr⟩

/-- **Truthy condition: only the `then` branch.** Whatever `els` is, it is not evaluated. -/
theorem if_true_core {c t : Expr} (els : Option Expr) {env : Nat} {s s1 s2 : St} {vc : Val} {r : R Val}
    (hc : GivesE c env s vc s1) (ht : vc.truthy = true) (hthen : EndsE t env s1 r s2) :
    EndsE (.ifE c t els) env s r s2 := by
  refine .of_ev (.of_succ ?_) hthen.notFuel
  cases els <;> (simp only [evalE]; exact hc.ev.bind (by simp only [ht, ↓reduceIte]; exact hthen.ev))

/-- **Falsy condition with `else`: only the `else` branch.** Whatever `t` is, it is not evaluated. -/
theorem if_false_else_core {c e' : Expr} (t : Expr) {env : Nat} {s s1 s2 : St} {vc : Val} {r : R Val}
    (hc : GivesE c env s vc s1) (ht : vc.truthy = false) (hels : EndsE e' env s1 r s2) :
    EndsE (.ifE c t (some e')) env s r s2 := by
  refine .of_ev (.of_succ ?_) hels.notFuel
  simp only [evalE]
  exact hc.ev.bind (by simp only [ht, Bool.false_eq_true, ↓reduceIte]; exact hels.ev)

/-- **Falsy condition without `else`: nil, in the state the condition left.** -/
theorem if_false_none_core {c : Expr} (t : Expr) {env : Nat} {s s1 : St} {vc : Val}
    (hc : GivesE c env s vc s1) (ht : vc.truthy = false) : GivesE (.ifE c t none) env s .nil s1 := by
  refine Ev.exists_fuel (.of_succ ?_)
  simp only [evalE]
  exact hc.ev.bind (by simp only [ht, Bool.false_eq_true, ↓reduceIte]; exact .pure _ _)

/-- a raising condition: neither branch is evaluated -/
theorem if_cond_raises_core {c : Expr} (t : Expr) (els : Option Expr) {env : Nat} {s s' : St} {k m : String}
    (hc : RaisesE c env s k m s') : RaisesE (.ifE c t els) env s k m s' :=
  Ev.exists_fuel <| hc.ev.step fun _ => if_condition c t els

/-- `&&` / `||` whose left operand decides: the result is that operand itself; `r` is not evaluated -/
theorem shortcut_decided_core {op : String} {l : Expr} (r : Expr) {env : Nat} {s s1 : St} {vl : Val}
    (hop : (op == "||" || op == "&&") = true) (hl : GivesE l env s vl s1)
    (hd : ((op == "||" && vl.truthy) || (op == "&&" && !vl.truthy)) = true) : GivesE (.infix op l r) env s vl s1 := by
  refine Ev.exists_fuel (.of_succ ?_)
  simp only [evalE, hop, ↓reduceIte]
  exact hl.ev.bind (by simp only [hd, ↓reduceIte]; exact .pure _ _)

/-- … and whose left operand does not decide: the right operand, evaluated once in the state the left one left -/
theorem shortcut_undecided_core {op : String} {l r : Expr} {env : Nat} {s s1 s2 : St} {vl : Val} {res : R Val}
    (hop : (op == "||" || op == "&&") = true) (hl : GivesE l env s vl s1)
    (hd : ((op == "||" && vl.truthy) || (op == "&&" && !vl.truthy)) = false) (hr : EndsE r env s1 res s2) :
    EndsE (.infix op l r) env s res s2 := by
  refine .of_ev (.of_succ ?_) hr.notFuel
  simp only [evalE, hop, ↓reduceIte]
  exact hl.ev.bind (by simp only [hd, Bool.false_eq_true, ↓reduceIte]; exact hr.ev)

/-- **`||` decided by a truthy left operand**: the result is that operand itself; `r` is not evaluated. -/
theorem or_decided_core {l : Expr} (r : Expr) {env : Nat} {s s1 : St} {vl : Val}
    (hl : GivesE l env s vl s1) (ht : vl.truthy = true) : GivesE (.infix "||" l r) env s vl s1 :=
  shortcut_decided_core r (by decide) hl (by rw [ht]; decide)

/-- **`&&` decided by a falsy left operand** -/
theorem and_decided_core {l : Expr} (r : Expr) {env : Nat} {s s1 : St} {vl : Val}
    (hl : GivesE l env s vl s1) (ht : vl.truthy = false) : GivesE (.infix "&&" l r) env s vl s1 :=
  shortcut_decided_core r (by decide) hl (by rw [ht]; decide)

/-- **`||` not decided**: the right operand, evaluated once in the state the left operand left -/
theorem or_undecided_core {l r : Expr} {env : Nat} {s s1 s2 : St} {vl : Val} {res : R Val}
    (hl : GivesE l env s vl s1) (ht : vl.truthy = false) (hr : EndsE r env s1 res s2) :
    EndsE (.infix "||" l r) env s res s2 :=
  shortcut_undecided_core (by decide) hl (by rw [ht]; decide) hr

theorem and_undecided_core {l r : Expr} {env : Nat} {s s1 s2 : St} {vl : Val} {res : R Val}
    (hl : GivesE l env s vl s1) (ht : vl.truthy = true) (hr : EndsE r env s1 res s2) :
    EndsE (.infix "&&" l r) env s res s2 :=
  shortcut_undecided_core (by decide) hl (by rw [ht]; decide) hr

/-! ### guarded jumps: the guard belongs to the statement -/

/-- a falsy guard: `return / raise / defer … if c` is the value nil in the state the guard left; the guarded
    expression is not evaluated (and nothing is deferred) -/
theorem guard_false_core (k : JumpKind) (hk : k ≠ .yld) (e : Expr) {c : Expr} {env : Nat} {s s1 : St} {vc : Val}
    (hc : GivesE c env s vc s1) (ht : vc.truthy = false) : GivesStmt (.jumpIf k e c) env s (.val .nil) s1 := by
  refine Ev.exists_fuel (.of_succ ?_)
  simp only [evalStmt]
  exact hc.ev.bind (by cases k <;> first | exact absurd rfl hk | (simp only [ht, Bool.false_eq_true, ↓reduceIte]; exact .pure _ _))

/-- a truthy guard of `defer`: the expression is registered, not evaluated (state = the state the guard left) -/
theorem guard_defer_core (e : Expr) {c : Expr} {env : Nat} {s s1 : St} {vc : Val}
    (hc : GivesE c env s vc s1) (ht : vc.truthy = true) : GivesStmt (.jumpIf .dfr e c) env s (.dfr e) s1 := by
  refine Ev.exists_fuel (.of_succ ?_)
  simp only [evalStmt]
  exact hc.ev.bind (by simp only [ht, ↓reduceIte]; exact .pure _ _)

/-- a truthy guard of `return`: the expression is evaluated after the guard, once -/
theorem guard_return_core {e c : Expr} {env : Nat} {s s1 s2 : St} {vc v : Val}
    (hc : GivesE c env s vc s1) (ht : vc.truthy = true) (he : GivesE e env s1 v s2) :
    GivesStmt (.jumpIf .ret e c) env s (.ret v) s2 := by
  refine Ev.exists_fuel (.of_succ ?_)
  simp only [evalStmt]
  exact hc.ev.bind (by simp only [ht, ↓reduceIte]; exact he.ev.bind (.pure _ _))

/-- a raising guard: the statement raises where the guard raised; nothing is evaluated or deferred -/
theorem guard_raises_core (k : JumpKind) (e : Expr) {c : Expr} {env : Nat} {s s' : St} {kd m : String}
    (hc : RaisesE c env s kd m s') : RaisesStmt (.jumpIf k e c) env s kd m s' :=
  Ev.exists_fuel <| hc.ev.step fun _ => stmt_condition k e c

/-- the premises are satisfiable: `(2 if 1 else x)` with an unbound `x` gives 2 -/
example : EndsE (.ifE (.int 1) (.int 2) (some (.ident "x"))) 0 (initSt []) (.ok (.int 2)) (initSt []) :=
  if_true_core (some (.ident "x")) (vc := .int 1) (s1 := initSt []) ⟨1, by simp [evalE, pureM]⟩ (by simp [Val.truthy])
    ⟨1, by simp [evalE, pureM], by simp [R.notFuel]⟩


/-- an operator on a value without own properties is the built-in of that name -/
theorem callPropQuiet_builtin {recv : Val} {name : String} (hobj : ∀ ps, recv ≠ .obj ps) (hb : hasBuiltin recv name = true)
    (n : Nat) (args : List Val) (env : Nat) : callPropQuiet (n + 1) recv name args env = builtinCall n name recv args [] env := by
  unfold callPropQuiet
  cases recv <;> first | exact absurd rfl (hobj _) | simp only [hb, ↓reduceIte]

theorem builtinCall_not (n : Nat) (v : Val) (args : List Val) (kw : List (String × Val)) (env : Nat) :
    builtinCall (n + 1) "!" v args kw env = pureBuiltin "!" v args := by
  simp [builtinCall]

theorem pureBuiltin_not {v : Val} (hv : v ≠ .diamond) (args : List Val) : pureBuiltin "!" v args = pureM (.bool (!v.truthy)) := by
  cases v <;> first | exact absurd rfl hv | rfl

/-- **`!c` is the negation of the same rule**: for a scalar / array condition value (anything that is not an object
    with its own `!`, nor standard input) `!c` is `true` exactly when `c` is not truthy; the operand is evaluated once. -/
theorem not_core {e : Expr} {env : Nat} {s s1 : St} {v : Val}
    (hv : GivesE e env s v s1) (hplain : (match v with | .obj _ => False | .diamond => False | _ => True)) :
    GivesE (.pref "!" e) env s (.bool (!v.truthy)) s1 := by
  have hobj : ∀ ps, v ≠ .obj ps := fun ps h => by subst h; exact hplain
  have hd : v ≠ .diamond := fun h => by subst h; exact hplain
  refine Ev.exists_fuel (.of_succ ?_)
  simp only [evalE, show (("!" : String) == "*") = false by decide, show (("!" : String) == "+") = false by decide,
    show (("!" : String) == "-") = false by decide, Bool.false_eq_true, ↓reduceIte]
  refine hv.ev.bind (.of_succ (.of_succ ?_))
  simp only [callPropQuiet_builtin hobj (rfl : hasBuiltin v "!" = true), builtinCall_not, pureBuiltin_not hd]
  exact .pure _ _

end Pangaea.C12
