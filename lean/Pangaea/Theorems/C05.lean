/- C05 — property resolution follows the prototype chain, then `_missing`, then NoPropErr.
   The theorems hold for every prototype forest (objects of any depth, any property payload type), i.e.
   for every history of literals / bear / bro that built it. -/
import Pangaea.Lemmas.Names
namespace Pangaea.C05
open Pangaea.Proto

variable {P : Type}

/-- **Search order.** Lookup returns the value bound by the first object, in the order o, proto o,
    proto (proto o), … , BaseObj, that has the name as an own property. -/
theorem findProp_eq_first_in_chain (o : Obj P) (n : String) :
    findProp o n = (chain o).findSome? (fun x => x.own n) := by
  induction o with
  | base nm ps => rw [chain, List.findSome?_singleton]; rfl
  | node nm ps proto ih => rw [chain, List.findSome?_cons, ← ih]; rfl

/-- **`which` agrees with the call.** The owner reported is the first object of the chain that has the
    name, and the property found is that owner's own property. -/
theorem findOwner_eq_first_in_chain (o : Obj P) (n : String) :
    findOwner o n = (chain o).find? (fun x => (x.own n).isSome) := by
  induction o with
  | base nm ps =>
    rw [chain, List.find?_singleton, findOwner, Obj.own, Obj.pairs]
    cases ps.lookup n <;> rfl
  | node nm ps proto ih =>
    rw [chain, List.find?_cons, ← ih, findOwner, Obj.own, Obj.pairs]
    cases ps.lookup n <;> rfl

theorem findSome?_eq_find?_bind {α β : Type} (f : α → Option β) (l : List α) :
    l.findSome? f = (l.find? fun x => (f x).isSome).bind f := by
  induction l with
  | nil => rfl
  | cons x l ih =>
    rw [List.findSome?_cons, List.find?_cons]
    cases h : f x with
    | none => exact ih
    | some b => exact h.symm

theorem findProp_via_owner (o : Obj P) (n : String) :
    findProp o n = (findOwner o n).bind (fun w => w.own n) := by
  rw [findProp_eq_first_in_chain, findOwner_eq_first_in_chain]
  exact findSome?_eq_find?_bind ..

/-- **`_missing` is the last resort.** It is consulted only when no object of the chain has the name,
    and then found in the same order; otherwise NoPropErr. -/
theorem evalProp_spec (o : Obj P) (n : String) :
    (∀ v, findProp o n = some v → evalProp o n = .prop v) ∧
    (findProp o n = none → ∀ m, findProp o "_missing" = some m → evalProp o n = .missing m) ∧
    (findProp o n = none → findProp o "_missing" = none → evalProp o n = .noProp) := by
  unfold evalProp
  exact ⟨fun v h => by rw [h], fun h m hm => by rw [h, hm], fun h hm => by rw [h, hm]⟩

/-- **bear / bro / proto.** `bear` creates a child whose prototype is the receiver, `bro` a sibling with the
    receiver's prototype; a child sees its own properties first and everything of its parent otherwise. -/
theorem bear_proto (nm : String) (p : Obj P) (src : List (String × P)) : (bear nm p src).proto = some p := rfl

theorem bro_proto (nm : String) (o : Obj P) (src : List (String × P)) (b : Obj P) (h : bro nm o src = some b) :
    b.proto = o.proto := by
  cases o with
  | base => cases h
  | node => cases h; rfl

theorem bear_lookup (nm : String) (p : Obj P) (src : List (String × P)) (n : String) :
    findProp (bear nm p src) n = (match src.lookup n with | some v => some v | none => findProp p n) := rfl

/-- **ancestors / kindOf?.** `ancestors o` is the chain without o itself; o is a kind of x exactly when x is in
    o's chain (stated on chains: the model's object equality is structural). -/
theorem ancestors_chain (o : Obj P) : chain o = o :: ancestors o := by
  cases o <;> rfl

theorem chain_bear (nm : String) (p : Obj P) (src : List (String × P)) :
    chain (bear nm p src) = bear nm p src :: chain p := rfl

/-- **keys** lists exactly the receiver's own public names (nothing inherited, nothing private). -/
theorem keys_are_own_public (o : Obj P) (n : String) :
    n ∈ keys o ↔ (o.own n).isSome ∧ isPublicName n = true := by
  simp only [keys, sortNames_eq_dict, Dict.mem_sortNames, List.mem_filter, List.mem_eraseDups, List.mem_map, Obj.own,
    List.lookup_isSome_iff, beq_iff_eq, @eq_comm _ n]

end Pangaea.C05
