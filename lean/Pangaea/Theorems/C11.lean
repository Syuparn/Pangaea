/- C11 — indexing and slicing select exactly the addressed elements. -/
import Pangaea.Lemmas.Index
namespace Pangaea.C11
open Pangaea Pangaea.Index Pangaea.IndexSpec Pangaea.IndexLemmas

/-- **Positions.** For every length, all int64-or-omitted bounds and every non-zero int64 step, the
    index list walked by `valRange` (with Go's wrap-around arithmetic and the bounded step) is exactly
    the progression `start, start+step, …` of all positions before `stop`, after defaults and clamping. -/
theorem indices_prog (n : Nat) (hn : SizeOk n) (start stop : Bound) (step : Int)
    (hstart : BoundOk start) (hstop : BoundOk stop) (h0 : step ≠ 0) :
    Prog step (stopOf n step (toOpt stop)) (startOf n step (toOpt start)) (indices n start stop step) := by
  have hc := clampStep_cases n hn step
  have hw := window_width (startOf_window n step (toOpt start)) (stopOf_window n step (toOpt stop))
  simp only [indices]
  generalize clampStep n step = c at hc ⊢
  rw [fixRange_spec n hn start stop (show c < 0 ↔ step < 0 by omega) hstart hstop]
  generalize startOf n step (toOpt start) = s at hw ⊢
  generalize stopOf n step (toOpt stop) = e at hw ⊢
  -- from `[-1, n]` a stride of at most `n + 1` stays far inside int64
  rw [loop_eq_walk (lo := -1) (hi := n) (S := n + 1) (by omega) (by omega) (by omega) _ _
    (by omega) (by omega)]
  have hp := walk_prog c e (by omega) (n + 2) s (by omega)
  by_cases h : c = step
  · exact h ▸ hp
  · -- a bounded step is longer than the window, as the written one is
    exact prog_long_stride (w := n) (by omega) (by omega) hp

/-- **Uniqueness.** The progression is determined by start, stop and step, so the model's
    index list equals the reference implementation's. -/
theorem indices_eq_spec (n : Nat) (hn : SizeOk n) (start stop : Bound) (step : Int)
    (hstart : BoundOk start) (hstop : BoundOk stop) (h0 : step ≠ 0) :
    indices n start stop step = specIndices n (toOpt start) (toOpt stop) step := by
  have hw := window_width (startOf_window n step (toOpt start)) (stopOf_window n step (toOpt stop))
  exact prog_unique (indices_prog n hn start stop step hstart hstop h0)
    (walk_prog step _ h0 _ _ (by omega))

/-- **Nothing is invented.** Every visited position addresses an element of the sequence. -/
theorem indices_inRange (n : Nat) (hn : SizeOk n) (start stop : Bound) (step : Int)
    (hstart : BoundOk start) (hstop : BoundOk stop) (h0 : step ≠ 0) :
    ∀ j ∈ indices n start stop step, 0 ≤ j ∧ j < n := by
  intro j hj
  have hp := prog_window (indices_prog n hn start stop step hstart hstop h0) j hj
  have hsw := startOf_window n step (toOpt start)
  have hew := stopOf_window n step (toOpt stop)
  unfold lower upper at hsw hew
  omega

def expectArr {α} : Option (List α) → Res (Option α)
  | none => .valueErr
  | some ys => .arr (ys.map some)

def expectStr {α} : Option (List α) → Res α
  | none => .valueErr
  | some ys => .arr ys

/-- **Arrays.** `arr[start:stop:step]` is the reference slice: the elements at exactly the addressed
    positions, in order; a zero step is `ValueErr`; no Go panic for any input. -/
theorem valRange_spec {α} (xs : List α) (hn : SizeOk xs.length) (start stop step : Bound)
    (u1 : Usable start) (u2 : Usable stop) (u3 : Usable step)
    (hstart : BoundOk start) (hstop : BoundOk stop) (_hstep : BoundOk step) :
    valRange xs start stop step = expectArr (specSlice xs (toOpt start) (toOpt stop) (stepOf step)) := by
  simp only [valRange, specSlice, usable_of_ne u1, usable_of_ne u2, usable_of_ne u3, Bool.and_self,
    Bool.not_true, Bool.false_eq_true, if_false]
  by_cases h0 : stepOf step = 0
  · rw [if_pos h0, if_pos h0]; rfl
  · rw [if_neg h0, if_neg h0,
      collect_spec xs hn _ (indices_inRange xs.length hn start stop (stepOf step) hstart hstop h0),
      indices_eq_spec xs.length hn start stop (stepOf step) hstart hstop h0]
    rfl

/-- **Strings.** `str[start:stop:step]` over code points is the reference slice; `strRange`'s unchecked
    type assertions never fail (no Go panic) and a zero step is `ValueErr`. -/
theorem strRange_spec (cs : List Char) (hn : SizeOk cs.length) (start stop step : Bound)
    (u1 : Usable start) (u2 : Usable stop) (u3 : Usable step)
    (hstart : BoundOk start) (hstop : BoundOk stop) (hstep : BoundOk step) :
    strRange cs start stop step = expectStr (specSlice cs (toOpt start) (toOpt stop) (stepOf step)) := by
  rw [strRange, valRange_spec cs hn start stop step u1 u2 u3 hstart hstop hstep]
  cases specSlice cs (toOpt start) (toOpt stop) (stepOf step) with
  | none => rfl
  | some ys => simp [expectArr, expectStr, List.filterMap_map]

/-- **Single index.** `s[i]` is the i-th element, counted from the end for negative `i`, `nil` outside
    `[-n, n-1]`; never a Go panic. -/
theorem arrIndex_eq_spec {α} (xs : List α) (hn : SizeOk xs.length) (i : Int) (_hi : fits64 i) :
    arrIndex i xs = .ok (specAt xs i) := arrIndex_spec xs i hn

theorem slice_subset {α} (xs : List α) (start stop : Option Int) (step : Int) (ys : List α)
    (h : specSlice xs start stop step = some ys) : ∀ y ∈ ys, y ∈ xs := by
  unfold specSlice at h
  split at h
  · cases h
  · cases h
    intro y hy
    simp only [List.mem_filterMap] at hy
    obtain ⟨j, _, hj⟩ := hy
    exact List.mem_of_getElem? hj

theorem zero_step {α} (xs : List α) (start stop : Bound) (u1 : Usable start) (u2 : Usable stop) :
    valRange xs start stop (.int 0) = .valueErr := by
  simp [valRange, usable_of_ne u1, usable_of_ne u2, usable_of_ne (b := .int 0), stepOf]

example : indices 3 (.int 10) .nil (-1) = [2, 1, 0] := by decide
example : indices 3 .nil (.int (-5)) (-1) = [2, 1, 0] := by decide
example : indices 3 (.int 2) .nil 9223372036854775807 = [2] := by decide
example : valRange [10, 20, 30, 40, 50] (.int (-2)) (.int 0) (.int (-2)) = .arr [some 40, some 20] := by decide
example : strRange ['a', 'b', 'c'] (.int 10) .nil (.int (-1)) = .arr ['c', 'b', 'a'] := by decide
example : SizeOk 3 ∧ BoundOk (.int 10) ∧ BoundOk .nil := by
  refine ⟨by decide, ?_, ?_⟩
  · intro v h; cases h; decide
  · intro v h; cases h

/-- `fix` before the `fix:` commit for C11: clamping ignored the direction of the step -/
def oldFix (length i : Int) : Int :=
  if i < -length then 0 else if i > length then length else if i < 0 then i + length else i
example : oldFix 3 10 = 3 := by decide   -- `[1,2,3][10::-1]` started at position 3 = one past the end

end Pangaea.C11
