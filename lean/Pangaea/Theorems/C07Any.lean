/- C07, fuel-free form: with fuel monotonicity "evaluates to" and "raises" can be stated without fuel (and composed
   through `Ev`, Lemmas/Fuel.lean), and fail-stop holds at EVERY position of an array literal, a statement list, an
   argument list: whatever the number of earlier elements (plain or unpacked) and of later ones. The later elements
   are not evaluated: the final state is the state at the raise. -/
import Pangaea.Theorems.C07
import Pangaea.Lemmas.Fuel
namespace Pangaea.C07
open Pangaea.Core

/-- `e` evaluates to `v` (for some, hence every larger, fuel) -/
def GivesE (e : Expr) (env : Nat) (s : St) (v : Val) (s' : St) : Prop := ∃ fuel, evalE fuel e env s = (.ok v, s')
def RaisesE (e : Expr) (env : Nat) (s : St) (k msg : String) (s' : St) : Prop := ∃ fuel, evalE fuel e env s = (.err k msg, s')
def GivesElems (es : List Expr) (env : Nat) (s : St) (vs : List Val) (s' : St) : Prop := ∃ fuel, evalElems fuel es env s = (.ok vs, s')

theorem GivesE.ev {e : Expr} {env : Nat} {s s' : St} {v : Val} (h : GivesE e env s v s') : Ev (evalE · e env) s (.ok v) s' :=
  (mono_evalE e env).ev h
theorem RaisesE.ev {e : Expr} {env : Nat} {s s' : St} {k msg : String} (h : RaisesE e env s k msg s') :
    Ev (evalE · e env) s (.err k msg) s' :=
  (mono_evalE e env).ev h

/-- the earlier elements of a literal: each plain one evaluates to a value, each unpacked one to an array -/
inductive PrefixOk (env : Nat) : List Expr → St → St → Prop
  | nil (s : St) : PrefixOk env [] s s
  | plain {e : Expr} {rest : List Expr} {s s1 s2 : St} {v : Val} : Plain e → GivesE e env s v s1 → PrefixOk env rest s1 s2 → PrefixOk env (e :: rest) s s2
  | unpacked {e : Expr} {rest : List Expr} {s s1 s2 : St} {xs : List Val} : GivesE e env s (.arr xs) s1 → PrefixOk env rest s1 s2 →
      PrefixOk env (.pref "*" e :: rest) s s2

theorem PrefixOk.raises {env : Nat} {pre rest : List Expr} {s s1 s' : St} {k msg : String} (hpre : PrefixOk env pre s s1)
    (h : Ev (evalElems · rest env) s1 (.err k msg) s') : Ev (evalElems · (pre ++ rest) env) s (.err k msg) s' := by
  induction hpre with
  | nil => exact h
  | plain hp hv _ ih => exact hv.ev.step₂ (ih h) fun _ => elems_tail _ _ _ hp
  | unpacked hv _ ih => exact .of_succ (by simp only [List.cons_append, evalElems]; exact hv.ev.bind (ih h).bind_err)

/-- **Fail-stop at every element position.** If the elements before position k evaluate (to values / arrays) taking
    the state from s to s1, and the k-th element raises (k, msg) reaching s', then the array literal raises exactly
    (k, msg) and ends in exactly s' - whatever follows position k is not evaluated. -/
theorem arr_any_position {pre post : List Expr} {e : Expr} {env : Nat} {s s1 s' : St} {k msg : String} (hp : Plain e)
    (hpre : PrefixOk env pre s s1) (h : RaisesE e env s1 k msg s') :
    RaisesE (.arr (pre ++ e :: post)) env s k msg s' :=
  Ev.exists_fuel <| .step (hpre.raises (h.ev.step fun _ => elems_head e post hp)) fun _ => arr_literal _

/-- the same when the raising element is the operand of an unpacked element `*e` -/
theorem arr_any_position_unpacked {pre post : List Expr} {e : Expr} {env : Nat} {s s1 s' : St} {k msg : String}
    (hpre : PrefixOk env pre s s1) (h : RaisesE e env s1 k msg s') :
    RaisesE (.arr (pre ++ .pref "*" e :: post)) env s k msg s' :=
  Ev.exists_fuel <| .step (hpre.raises (h.ev.step fun _ => elems_head_unpacked e post)) fun _ => arr_literal _

/-- fuel-free operand rules (they compose with the element theorem for nested expressions) -/
theorem infix_left_any (op : String) (l r : Expr) {env : Nat} {s s' : St} {k msg : String} (h : RaisesE l env s k msg s') :
    RaisesE (.infix op l r) env s k msg s' :=
  Ev.exists_fuel <| h.ev.step fun _ => infix_left op l r

theorem infix_right_any (op : String) (l r : Expr) {env : Nat} {s s1 s' : St} {vl : Val} {k msg : String}
    (hop : (op == "||" || op == "&&") = false) (hl : GivesE l env s vl s1) (h : RaisesE r env s1 k msg s') :
    RaisesE (.infix op l r) env s k msg s' :=
  Ev.exists_fuel <| hl.ev.step₂ h.ev fun _ => infix_right op l r vl hop

theorem assigned_any (x : String) (e : Expr) {env : Nat} {s s' : St} {k msg : String} (h : RaisesE e env s k msg s') :
    RaisesE (.assign x e) env s k msg s' :=
  Ev.exists_fuel <| h.ev.step fun _ => assigned x e

/-- "raises" is well defined: an expression cannot both raise and evaluate to a value, nor raise two different errors -/
theorem raises_unique {e : Expr} {env : Nat} {s s1 s2 : St} {k1 m1 k2 m2 : String}
    (h1 : RaisesE e env s k1 m1 s1) (h2 : RaisesE e env s k2 m2 s2) : k1 = k2 ∧ m1 = m2 ∧ s1 = s2 := by
  obtain ⟨hr, rfl⟩ := h1.ev.unique h2.ev
  cases hr
  exact ⟨rfl, rfl, rfl⟩

theorem raises_excludes_value {e : Expr} {env : Nat} {s s1 s2 : St} {k m : String} {v : Val}
    (h1 : RaisesE e env s k m s1) (h2 : GivesE e env s v s2) : False :=
  nomatch (h1.ev.unique h2.ev).1


/-! ### statement lists: a raise in the k-th statement ends the list -/
def GivesStmt (st : Stmt) (env : Nat) (s : St) (sig : Sig) (s' : St) : Prop := ∃ fuel, evalStmt fuel st env s = (.ok sig, s')
def RaisesStmt (st : Stmt) (env : Nat) (s : St) (k msg : String) (s' : St) : Prop := ∃ fuel, evalStmt fuel st env s = (.err k msg, s')
def RaisesLoop (ss : List Stmt) (env : Nat) (val : Val) (y : Option Val) (s : St) (k msg : String) (s' : St) : Prop :=
  ∃ fuel, stmtLoop fuel ss env val y [] s = (.err k msg, s')

/-- earlier statements that end normally (no return, no pending defer; a yield keeps the first yielded value) -/
inductive StmtsOk (env : Nat) : List Stmt → Val → Option Val → St → Val → Option Val → St → Prop
  | nil (v : Val) (y : Option Val) (s : St) : StmtsOk env [] v y s v y s
  | val {st : Stmt} {rest : List Stmt} {v v1 v2 : Val} {y y2 : Option Val} {s s1 s2 : St} :
      GivesStmt st env s (.val v1) s1 → StmtsOk env rest v1 y s1 v2 y2 s2 → StmtsOk env (st :: rest) v y s v2 y2 s2
  | yld {st : Stmt} {rest : List Stmt} {v v1 v2 : Val} {y y2 : Option Val} {s s1 s2 : St} :
      GivesStmt st env s (.yld v1) s1 → StmtsOk env rest v1 (some (y.getD v1)) s1 v2 y2 s2 → StmtsOk env (st :: rest) v y s v2 y2 s2

/-- a statement that hands `sig` to the loop: the loop goes on as `stmtLoop_cons` says -/
theorem loop_of_givesStmt {st : Stmt} {rest : List Stmt} {env : Nat} {v : Val} {y : Option Val} {ds : List Expr} {s s1 s' : St}
    {sig : Sig} {r : R (Val × List Expr)} (hv : GivesStmt st env s sig s1)
    (h : Ev (fun n => match sig with
      | .val v => stmtLoop n rest env v y ds
      | .ret v => pureM (v, ds)
      | .yld v => stmtLoop n rest env v (some (y.getD v)) ds
      | .dfr e => stmtLoop n rest env .nil y (ds ++ [e])) s1 r s') :
    Ev (stmtLoop · (st :: rest) env v y ds) s r s' :=
  .of_succ (by simp only [stmtLoop_cons]; exact ((mono_evalStmt st env).ev hv).handle_ok h)

theorem StmtsOk.then {env : Nat} {pre rest : List Stmt} {v v1 : Val} {y y1 : Option Val} {s s1 s' : St} {r : R (Val × List Expr)}
    (hpre : StmtsOk env pre v y s v1 y1 s1) (h : Ev (stmtLoop · rest env v1 y1 []) s1 r s') :
    Ev (stmtLoop · (pre ++ rest) env v y []) s r s' := by
  induction hpre with
  | nil => exact h
  | val hv _ ih => exact loop_of_givesStmt hv (ih h)
  | yld hv _ ih => exact loop_of_givesStmt hv (ih h)

/-- **Fail-stop at every statement position.** If the statements before position k end normally taking the state
    from s to s1 and the k-th statement raises (k, msg) reaching s', the statement list (a program, a function body)
    raises exactly (k, msg) and ends in exactly s': no later statement is evaluated. -/
theorem stmts_any_position {pre post : List Stmt} {st : Stmt} {env : Nat} {v v1 : Val} {y y1 : Option Val} {s s1 s' : St} {k msg : String}
    (hpre : StmtsOk env pre v y s v1 y1 s1) (h : RaisesStmt st env s1 k msg s') :
    RaisesLoop (pre ++ st :: post) env v y s k msg s' :=
  Ev.exists_fuel <| hpre.then <| ((mono_evalStmt st env).ev h).step fun _ => stmts_head st post v1 y1

/-- … and therefore the program / body as a whole -/
theorem program_any_position {pre post : List Stmt} {st : Stmt} {env : Nat} {v1 : Val} {y1 : Option Val} {s s1 s' : St} {k msg : String}
    (hpre : StmtsOk env pre .nil none s v1 y1 s1) (h : RaisesStmt st env s1 k msg s') :
    ∃ fuel, evalStmts fuel (pre ++ st :: post) env s = (.err k msg, s') :=
  Ev.exists_fuel <| ((mono_stmtLoop _ env _ _ _).ev (stmts_any_position (post := post) hpre h)).step fun _ => body _


/-! ### arguments of a call: a raise in the k-th argument (plain, `*arr` or `**obj`) -/
def RaisesArgs (es : List Expr) (env : Nat) (acc : List Val) (kw : List (String × Val)) (s : St) (k msg : String) (s' : St) : Prop :=
  ∃ fuel, evalArgs fuel es env acc kw s = (.err k msg, s')

/-- the arguments before position k: plain ones evaluate to values, `*e` to arrays, `**e` to objects -/
inductive ArgsOk (env : Nat) : List Expr → List Val → List (String × Val) → St → List Val → List (String × Val) → St → Prop
  | nil (acc : List Val) (kw : List (String × Val)) (s : St) : ArgsOk env [] acc kw s acc kw s
  | plain {e : Expr} {rest : List Expr} {acc acc2 : List Val} {kw kw2 : List (String × Val)} {s s1 s2 : St} {v : Val} :
      Plain e → GivesE e env s v s1 → ArgsOk env rest (acc ++ [v]) kw s1 acc2 kw2 s2 → ArgsOk env (e :: rest) acc kw s acc2 kw2 s2
  | arr {e : Expr} {rest : List Expr} {acc acc2 : List Val} {kw kw2 : List (String × Val)} {s s1 s2 : St} {xs : List Val} :
      GivesE e env s (.arr xs) s1 → ArgsOk env rest (acc ++ xs) kw s1 acc2 kw2 s2 → ArgsOk env (.pref "*" e :: rest) acc kw s acc2 kw2 s2
  | obj {e : Expr} {rest : List Expr} {acc acc2 : List Val} {kw kw2 : List (String × Val)} {s s1 s2 : St} {ps : List (String × Val)} :
      GivesE e env s (.obj ps) s1 → ArgsOk env rest acc (addAllFirst kw ps) s1 acc2 kw2 s2 → ArgsOk env (.pref "**" e :: rest) acc kw s acc2 kw2 s2

theorem ArgsOk.then {env : Nat} {pre rest : List Expr} {acc acc1 : List Val} {kw kw1 : List (String × Val)} {s s1 s' : St}
    {r : R (List Val × List (String × Val))} (hpre : ArgsOk env pre acc kw s acc1 kw1 s1)
    (h : Ev (evalArgs · rest env acc1 kw1) s1 r s') : Ev (evalArgs · (pre ++ rest) env acc kw) s r s' := by
  induction hpre with
  | nil => exact h
  | plain hp hv _ ih =>
    exact .of_succ (by simp only [List.cons_append, evalArgs_plain hp]; exact hv.ev.bind (ih h))
  | arr hv _ ih => exact .of_succ (by simp only [List.cons_append, evalArgs_star]; exact hv.ev.bind (ih h))
  | obj hv _ ih => exact .of_succ (by simp only [List.cons_append, evalArgs]; exact hv.ev.bind (ih h))

/-- **Fail-stop at every argument position.** -/
theorem args_any_position {pre post : List Expr} {e : Expr} {env : Nat} {acc acc1 : List Val} {kw kw1 : List (String × Val)}
    {s s1 s' : St} {k msg : String} (hp : Plain e) (hpre : ArgsOk env pre acc kw s acc1 kw1 s1) (h : RaisesE e env s1 k msg s') :
    RaisesArgs (pre ++ e :: post) env acc kw s k msg s' :=
  Ev.exists_fuel <| hpre.then <| h.ev.step fun _ => args_head e post acc1 kw1 hp

/-- **… of a property call**: the receiver and the chain argument evaluate, the arguments before position k evaluate,
    the k-th raises: the call raises the same error in the same state - the callee is never entered, later arguments
    and all keyword arguments are not evaluated. -/
theorem call_any_argument_position {recv : Expr} {m : Main} {a : Add} {prop : String} {pre post : List Expr} {e : Expr} {kws : List KwE}
    {env : Nat} {vr : Val} {acc1 : List Val} {kw1 : List (String × Val)} {s s0 s1 s' : St} {k msg : String} (hp : Plain e)
    (hrecv : GivesE recv env s vr s0) (hpre : ArgsOk env pre [] [] s0 acc1 kw1 s1) (h : RaisesE e env s1 k msg s') :
    RaisesE (.propCall (some recv) m a none prop (pre ++ e :: post) kws) env s k msg s' := by
  refine Ev.exists_fuel (.of_succ ?_)
  simp only [evalE]
  refine Ev.bind (.of_succ (by simp only [evalRecv]; exact hrecv.ev)) (Ev.bind (.of_succ (by simp only [evalOpt]; exact .pure _ _)) ?_)
  exact ((mono_evalArgs _ env _ _).ev (args_any_position (post := post) hp hpre h)).bind_err

end Pangaea.C07
