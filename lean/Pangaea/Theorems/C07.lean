/- C07 — raised errors stop evaluation (fail-stop), over the Core reference evaluator (Pangaea/Core/Eval.lean).
   `Raises m s k msg s'` : running `m` from state `s` ends with the error (k, msg) in state `s'`.
   Every theorem below has the shape "the child raises (k, msg) reaching s'  ⟹  the parent raises the same
   (k, msg) and ends in exactly s'": no later sibling is evaluated, nothing more is printed or assigned.
   Because hypothesis and conclusion have the same shape, the theorems chain through any nesting depth
   (`nested_example`). Handlers (`~.`-chains) and pending `defer`s are the stated exceptions. -/
import Pangaea.Lemmas.Core
namespace Pangaea.C07
open Pangaea.Core

def Raises {α : Type} (m : M α) (s : St) (k msg : String) (s' : St) : Prop := m s = (.err k msg, s')
def Gives {α : Type} (m : M α) (s : St) (a : α) (s' : St) : Prop := m s = (.ok a, s')

variable {fuel env : Nat} {s s1 s2 s' : St} {k msg : String}

/-- every theorem of this file is one of these two facts about `>>==` (or their analogue `handleM_ok` /
    `handleM_err` for a handler) read at one equation of the evaluator: a bind stops at the first error -/
theorem Raises.bind {α β : Type} {m : M α} {f : α → M β} (h : Raises m s k msg s') : Raises (m >>== f) s k msg s' :=
  bindM_err m f s s' k msg h

theorem Gives.bind {α β : Type} {m : M α} {f : α → M β} {a : α} (hv : Gives m s a s1) (h : Raises (f a) s1 k msg s') :
    Raises (m >>== f) s k msg s' :=
  (bindM_ok m f s s1 a hv).trans h

/-! ### operands, prefix, condition, branches, assignment -/
theorem infix_left (op : String) (l r : Expr) (h : Raises (evalE fuel l env) s k msg s') :
    Raises (evalE (fuel + 1) (.infix op l r) env) s k msg s' := by
  rw [evalE]; split <;> exact h.bind

theorem infix_right (op : String) (l r : Expr) (vl : Val) (hop : (op == "||" || op == "&&") = false)
    (hl : Gives (evalE fuel l env) s vl s1) (h : Raises (evalE fuel r env) s1 k msg s') :
    Raises (evalE (fuel + 1) (.infix op l r) env) s k msg s' := by
  rw [evalE, hop, if_neg Bool.false_ne_true]; exact hl.bind h.bind

/-- the right operand of `&&` / `||`, when it is evaluated at all -/
theorem shortcut_right (op : String) (l r : Expr) (vl : Val) (hop : (op == "||" || op == "&&") = true)
    (hl : Gives (evalE fuel l env) s vl s1)
    (hcont : ((op == "||" && vl.truthy) || (op == "&&" && !vl.truthy)) = false)
    (h : Raises (evalE fuel r env) s1 k msg s') :
    Raises (evalE (fuel + 1) (.infix op l r) env) s k msg s' := by
  rw [evalE, hop, if_pos rfl]
  exact hl.bind (by rw [hcont, if_neg Bool.false_ne_true]; exact h)

theorem prefix_operand (op : String) (e : Expr) (hop : (op == "*") = false) (h : Raises (evalE fuel e env) s k msg s') :
    Raises (evalE (fuel + 1) (.pref op e) env) s k msg s' := by
  rw [evalE, hop, if_neg Bool.false_ne_true]; exact h.bind

theorem assigned (x : String) (e : Expr) (h : Raises (evalE fuel e env) s k msg s') :
    Raises (evalE (fuel + 1) (.assign x e) env) s k msg s' := by
  rw [evalE]; exact h.bind

theorem if_condition (c t : Expr) (e : Option Expr) (h : Raises (evalE fuel c env) s k msg s') :
    Raises (evalE (fuel + 1) (.ifE c t e) env) s k msg s' := by
  cases e <;> (rw [evalE]; exact h.bind)

theorem if_then (c t : Expr) (e : Option Expr) (vc : Val) (hc : Gives (evalE fuel c env) s vc s1) (ht : vc.truthy = true)
    (h : Raises (evalE fuel t env) s1 k msg s') :
    Raises (evalE (fuel + 1) (.ifE c t e) env) s k msg s' := by
  cases e <;> (rw [evalE]; exact hc.bind (by rw [ht, if_pos rfl]; exact h))

theorem if_else (c t e : Expr) (vc : Val) (hc : Gives (evalE fuel c env) s vc s1) (ht : vc.truthy = false)
    (h : Raises (evalE fuel e env) s1 k msg s') :
    Raises (evalE (fuel + 1) (.ifE c t (some e)) env) s k msg s' := by
  rw [evalE]; exact hc.bind (by rw [ht, if_neg Bool.false_ne_true]; exact h)

/-! ### range bounds (`evalOpt` and `evalRecv` spend a unit of fuel themselves, hence `fuel + 2`) -/
theorem range_start (a : Expr) (b c : Option Expr) (h : Raises (evalE fuel a env) s k msg s') :
    Raises (evalE (fuel + 2) (.range (some a) b c) env) s k msg s' := by
  simp only [evalE, evalOpt]; exact h.bind

theorem range_stop (a : Option Expr) (b : Expr) (c : Option Expr) (va : Val)
    (ha : Gives (evalOpt (fuel + 1) a env) s va s1) (h : Raises (evalE fuel b env) s1 k msg s') :
    Raises (evalE (fuel + 2) (.range a (some b) c) env) s k msg s' := by
  simp only [evalE, evalOpt]; exact ha.bind h.bind

theorem range_step (a b : Option Expr) (c : Expr) (va vb : Val)
    (ha : Gives (evalOpt (fuel + 1) a env) s va s1) (hb : Gives (evalOpt (fuel + 1) b env) s1 vb s2)
    (h : Raises (evalE fuel c env) s2 k msg s') :
    Raises (evalE (fuel + 2) (.range a b c) env) s k msg s' := by
  simp only [evalE, evalOpt]; exact ha.bind (hb.bind h.bind)

/-! ### elements of an array literal (`k`-th element: apply `elems_tail` k times, then `elems_head`) -/
def Plain (e : Expr) : Prop := ∀ e', e ≠ .pref "*" e' ∧ e ≠ .pref "**" e'

/-- the last equation of `evalElems` / `evalArgs` applies to what the `*` / `**` equations before it do not match -/
theorem evalElems_plain {e : Expr} (hp : Plain e) (fuel : Nat) (rest : List Expr) (env : Nat) :
    evalElems (fuel + 1) (e :: rest) env = evalE fuel e env >>== fun v => evalElems fuel rest env >>== fun vs => pureM (v :: vs) :=
  evalElems.eq_4 _ _ _ _ fun e' he => (hp e').1 he

theorem evalArgs_plain {e : Expr} (hp : Plain e) (fuel : Nat) (rest : List Expr) (env : Nat) (acc : List Val) (kw : List (String × Val)) :
    evalArgs (fuel + 1) (e :: rest) env acc kw = evalE fuel e env >>== fun v => evalArgs fuel rest env (acc ++ [v]) kw :=
  evalArgs.eq_5 _ _ _ _ _ _ (fun e' he => (hp e').2 he) (fun e' he => (hp e').1 he)

theorem evalArgs_star (fuel : Nat) (e : Expr) (rest : List Expr) (env : Nat) (acc : List Val) (kw : List (String × Val)) :
    evalArgs (fuel + 1) (.pref "*" e :: rest) env acc kw = evalE fuel e env >>== fun v => match v with
      | .arr xs => evalArgs fuel rest env (acc ++ xs) kw
      | other => throwM "TypeErr" ("cannot use `*` unpacking for `" ++ other.repr ++ "`") :=
  evalArgs.eq_4 ..

theorem elems_head (e : Expr) (rest : List Expr) (hp : Plain e) (h : Raises (evalE fuel e env) s k msg s') :
    Raises (evalElems (fuel + 1) (e :: rest) env) s k msg s' := by
  rw [evalElems_plain hp]; exact h.bind

theorem elems_head_unpacked (e : Expr) (rest : List Expr) (h : Raises (evalE fuel e env) s k msg s') :
    Raises (evalElems (fuel + 1) (.pref "*" e :: rest) env) s k msg s' := by
  rw [evalElems]; exact h.bind

theorem elems_tail (e : Expr) (rest : List Expr) (v : Val) (hp : Plain e) (hv : Gives (evalE fuel e env) s v s1)
    (h : Raises (evalElems fuel rest env) s1 k msg s') :
    Raises (evalElems (fuel + 1) (e :: rest) env) s k msg s' := by
  rw [evalElems_plain hp]; exact hv.bind h.bind

theorem arr_literal (elems : List Expr) (h : Raises (evalElems fuel elems env) s k msg s') :
    Raises (evalE (fuel + 1) (.arr elems) env) s k msg s' := by
  rw [evalE]; exact h.bind

/-! ### arguments, keyword arguments -/
theorem args_head (e : Expr) (rest : List Expr) (acc : List Val) (kw : List (String × Val)) (hp : Plain e)
    (h : Raises (evalE fuel e env) s k msg s') :
    Raises (evalArgs (fuel + 1) (e :: rest) env acc kw) s k msg s' := by
  rw [evalArgs_plain hp]; exact h.bind

theorem args_head_unpacked_arr (e : Expr) (rest : List Expr) (acc : List Val) (kw : List (String × Val))
    (h : Raises (evalE fuel e env) s k msg s') :
    Raises (evalArgs (fuel + 1) (.pref "*" e :: rest) env acc kw) s k msg s' := by
  rw [evalArgs_star]; exact h.bind

theorem args_head_unpacked_obj (e : Expr) (rest : List Expr) (acc : List Val) (kw : List (String × Val))
    (h : Raises (evalE fuel e env) s k msg s') :
    Raises (evalArgs (fuel + 1) (.pref "**" e :: rest) env acc kw) s k msg s' := by
  rw [evalArgs]; exact h.bind

theorem args_tail (e : Expr) (rest : List Expr) (acc : List Val) (kw : List (String × Val)) (v : Val) (hp : Plain e)
    (hv : Gives (evalE fuel e env) s v s1) (h : Raises (evalArgs fuel rest env (acc ++ [v]) kw) s1 k msg s') :
    Raises (evalArgs (fuel + 1) (e :: rest) env acc kw) s k msg s' := by
  rw [evalArgs_plain hp]; exact hv.bind h

theorem kws_head (name : String) (e : Expr) (rest : List KwE) (acc : List (String × Val))
    (h : Raises (evalE fuel e env) s k msg s') :
    Raises (evalKws (fuel + 1) (.mk name e :: rest) env acc) s k msg s' := by
  rw [evalKws]; exact h.bind

theorem kws_tail (name : String) (e : Expr) (rest : List KwE) (acc : List (String × Val)) (v : Val)
    (hv : Gives (evalE fuel e env) s v s1) (h : Raises (evalKws fuel rest env (addFirst acc name v)) s1 k msg s') :
    Raises (evalKws (fuel + 1) (.mk name e :: rest) env acc) s k msg s' := by
  rw [evalKws]; exact hv.bind h

/-! ### property call: receiver, chain argument, arguments, keyword arguments (in that order) -/
theorem call_receiver (recv : Expr) (m : Main) (a : Add) (ca : Option Expr) (prop : String) (args : List Expr) (kws : List KwE)
    (h : Raises (evalE fuel recv env) s k msg s') :
    Raises (evalE (fuel + 2) (.propCall (some recv) m a ca prop args kws) env) s k msg s' := by
  simp only [evalE, evalRecv]; exact h.bind

theorem call_chain_argument (recv : Option Expr) (m : Main) (a : Add) (ca : Expr) (prop : String) (args : List Expr) (kws : List KwE)
    (vr : Val) (hr : Gives (evalRecv (fuel + 1) recv env) s vr s1) (h : Raises (evalE fuel ca env) s1 k msg s') :
    Raises (evalE (fuel + 2) (.propCall recv m a (some ca) prop args kws) env) s k msg s' := by
  simp only [evalE, evalOpt]; exact hr.bind h.bind

theorem call_arguments (recv : Option Expr) (m : Main) (a : Add) (ca : Option Expr) (prop : String) (args : List Expr) (kws : List KwE)
    (vr vc : Val) (hr : Gives (evalRecv fuel recv env) s vr s1) (hc : Gives (evalOpt fuel ca env) s1 vc s2)
    (h : Raises (evalArgs fuel args env [] []) s2 k msg s') :
    Raises (evalE (fuel + 1) (.propCall recv m a ca prop args kws) env) s k msg s' := by
  rw [evalE]; exact hr.bind (hc.bind h.bind)

theorem call_keyword_arguments (recv : Option Expr) (m : Main) (a : Add) (ca : Option Expr) (prop : String) (args : List Expr) (kws : List KwE)
    (vr vc : Val) (va : List Val × List (String × Val)) (s3 : St)
    (hr : Gives (evalRecv fuel recv env) s vr s1) (hc : Gives (evalOpt fuel ca env) s1 vc s2)
    (ha : Gives (evalArgs fuel args env [] []) s2 va s3) (h : Raises (evalKws fuel kws env []) s3 k msg s') :
    Raises (evalE (fuel + 1) (.propCall recv m a ca prop args kws) env) s k msg s' := by
  obtain ⟨vargs, unpacked⟩ := va
  rw [evalE]; exact hr.bind (hc.bind (ha.bind h.bind))

/-! ### literal call: receiver, callee, chain argument -/
theorem litcall_receiver (recv : Expr) (m : Main) (a : Add) (ca : Option Expr) (f : Expr)
    (h : Raises (evalE fuel recv env) s k msg s') :
    Raises (evalE (fuel + 2) (.litCall (some recv) m a ca f) env) s k msg s' := by
  simp only [evalE, evalRecv]; exact h.bind

theorem litcall_callee (recv : Option Expr) (m : Main) (a : Add) (ca : Option Expr) (f : Expr) (vr : Val)
    (hr : Gives (evalRecv fuel recv env) s vr s1) (h : Raises (evalE fuel f env) s1 k msg s') :
    Raises (evalE (fuel + 1) (.litCall recv m a ca f) env) s k msg s' := by
  rw [evalE]; exact hr.bind h.bind

/-! ### object literal: pair values, computed keys, `**` parts -/
theorem pair_value_named (key : String) (e : Expr) (rest : List PairE) (acc : List (String × Val))
    (h : Raises (evalE fuel e env) s k msg s') :
    Raises (evalPairs (fuel + 1) (.named key e :: rest) env acc) s k msg s' := by
  rw [evalPairs]; exact h.bind

theorem pair_value_computed (ke e : Expr) (rest : List PairE) (acc : List (String × Val))
    (h : Raises (evalE fuel e env) s k msg s') :
    Raises (evalPairs (fuel + 1) (.computed ke e :: rest) env acc) s k msg s' := by
  rw [evalPairs]; exact h.bind

theorem pair_key_computed (ke e : Expr) (rest : List PairE) (acc : List (String × Val)) (v : Val)
    (hv : Gives (evalE fuel e env) s v s1) (h : Raises (evalE fuel ke env) s1 k msg s') :
    Raises (evalPairs (fuel + 1) (.computed ke e :: rest) env acc) s k msg s' := by
  rw [evalPairs]; exact hv.bind h.bind

theorem pairs_tail_named (key : String) (e : Expr) (rest : List PairE) (acc : List (String × Val)) (v : Val)
    (hv : Gives (evalE fuel e env) s v s1) (h : Raises (evalPairs fuel rest env (addFirst acc key v)) s1 k msg s') :
    Raises (evalPairs (fuel + 1) (.named key e :: rest) env acc) s k msg s' := by
  rw [evalPairs]; exact hv.bind h

theorem obj_pairs (pairs : List PairE) (embedded : List Expr) (h : Raises (evalPairs fuel pairs env []) s k msg s') :
    Raises (evalE (fuel + 1) (.obj pairs embedded) env) s k msg s' := by
  rw [evalE]; exact h.bind

theorem obj_unpacked_head (e : Expr) (rest : List Expr) (acc : List (String × Val))
    (h : Raises (evalE fuel e env) s k msg s') :
    Raises (evalEmbedded (fuel + 1) (e :: rest) env acc) s k msg s' := by
  rw [evalEmbedded]; exact h.bind

theorem obj_unpacked (pairs : List PairE) (embedded : List Expr) (ps : List (String × Val))
    (hp : Gives (evalPairs fuel pairs env []) s ps s1) (h : Raises (evalEmbedded fuel embedded env ps) s1 k msg s') :
    Raises (evalE (fuel + 1) (.obj pairs embedded) env) s k msg s' := by
  rw [evalE]; exact hp.bind h.bind

/-! ### embedded strings -/
theorem embedded_part_head (str : String) (e : Expr) (rest : List PieceE) (acc : String)
    (h : Raises (evalE fuel e env) s k msg s') :
    Raises (evalPieces (fuel + 1) (.mk str e :: rest) env acc) s k msg s' := by
  rw [evalPieces]; exact h.bind

theorem embedded_str (pieces : List PieceE) (latter : String) (h : Raises (evalPieces fuel pieces env "") s k msg s') :
    Raises (evalE (fuel + 1) (.embedded pieces latter) env) s k msg s' := by
  rw [evalE]; exact h.bind

/-! ### function literal: default values of keyword parameters -/
theorem default_value (params : List String) (kws : List KwE) (body : List Stmt)
    (h : Raises (evalKws fuel kws env []) s k msg s') :
    Raises (evalE (fuel + 1) (.func (.mk params kws body)) env) s k msg s' := by
  rw [evalE]; exact h.bind

/-! ### statements: a raise in statement `st` ends the list; without pending `defer`s nothing else runs -/
theorem stmt_expr (e : Expr) (h : Raises (evalE fuel e env) s k msg s') :
    Raises (evalStmt (fuel + 1) (.expr e) env) s k msg s' := by
  rw [evalStmt]; exact h.bind

theorem stmt_return (e : Expr) (h : Raises (evalE fuel e env) s k msg s') :
    Raises (evalStmt (fuel + 1) (.jump .ret e) env) s k msg s' := by
  rw [evalStmt]; exact h.bind

theorem stmt_condition (jk : JumpKind) (e c : Expr) (h : Raises (evalE fuel c env) s k msg s') :
    Raises (evalStmt (fuel + 1) (.jumpIf jk e c) env) s k msg s' := by
  rw [evalStmt]; exact h.bind

theorem stmts_head (st : Stmt) (rest : List Stmt) (val : Val) (yielded : Option Val)
    (h : Raises (evalStmt fuel st env) s k msg s') :
    Raises (stmtLoop (fuel + 1) (st :: rest) env val yielded []) s k msg s' := by
  -- running no defers still takes fuel (`runDefers 0 [] env` is `outOfFuel`), but so does the statement that raised
  cases fuel with
  | zero => rw [evalStmt] at h; cases h
  | succ n => rw [Raises, stmtLoop_cons, handleM_err h, runDefers]; rfl

theorem stmts_tail (st : Stmt) (rest : List Stmt) (val v : Val) (yielded : Option Val) (defers : List Expr)
    (hv : Gives (evalStmt fuel st env) s (.val v) s1) (h : Raises (stmtLoop fuel rest env v yielded defers) s1 k msg s') :
    Raises (stmtLoop (fuel + 1) (st :: rest) env val yielded defers) s k msg s' := by
  rw [Raises, stmtLoop_cons, handleM_ok hv]; exact h

theorem body (stmts : List Stmt) (h : Raises (stmtLoop fuel stmts env .nil none []) s k msg s') :
    Raises (evalStmts (fuel + 1) stmts env) s k msg s' := by
  rw [evalStmts_succ]; exact h.bind

/-- a raise inside the body of a called function is the result of the call -/
theorem call_body (params : List String) (kwd : List (String × Val)) (stmts : List Stmt) (fenv : Nat)
    (args : List Val) (kwargs : List (String × Val)) (e : Nat)
    (he : Gives (enterCall fenv params kwd args kwargs) s e s1)
    (h : Raises (evalStmts fuel stmts e) s1 k msg s') :
    Raises (callVal (fuel + 1) (.func params kwd stmts fenv) args kwargs) s k msg s' := by
  rw [callVal]; exact he.bind h

/-! ### with pending `defer`s: they run, then the same error is delivered (unless a deferred expression raises) -/
theorem stmts_head_defers (st : Stmt) (rest : List Stmt) (val : Val) (yielded : Option Val) (defers : List Expr) (u : Unit)
    (h : Raises (evalStmt fuel st env) s k msg s1) (hd : Gives (runDefers fuel defers env) s1 u s') :
    Raises (stmtLoop (fuel + 1) (st :: rest) env val yielded defers) s k msg s' := by
  rw [Raises, stmtLoop_cons, handleM_err h, bindM_ok _ _ _ _ _ hd]; rfl

/-! ### the designated handler: a thoughtful chain turns the callee's error into the receiver -/
theorem thoughtful_catches (recv : Val) (name : String) (args : List Val) (kwargs : List (String × Val))
    (h : Raises (callProp fuel recv name args kwargs env) s k msg s') :
    Gives (propAdd (fuel + 1) .thoughtful recv name args kwargs env) s recv s' := by
  rw [Gives, propAdd_thoughtful, handleM_err h]; rfl

/-! ### chaining: the theorems compose through any nesting. `[1, f(2 + (1 // 0))]`-shaped example:
    a raise in the right operand of an argument of a call that is an element of an array literal. -/
theorem nested_example (e1 l r callee : Expr) (v1 vl vr : Val) (s3 : St)
    (h1 : Gives (evalE (fuel + 4) e1 env) s v1 s1) (hp1 : Plain e1)
    (hrecv : Gives (evalE (fuel + 1) callee env) s1 vr s2)
    (hl : Gives (evalE fuel l env) s2 vl s3)
    (hraise : Raises (evalE fuel r env) s3 k msg s') :
    Raises (evalE (fuel + 6) (.arr [e1, .propCall (some callee) .scalar .vanilla none "call" [.infix "+" l r] []]) env) s k msg s' := by
  apply arr_literal
  apply elems_tail e1 _ v1 hp1 h1
  apply elems_head _ _ (by intro e'; simp)
  apply call_arguments (some callee) .scalar .vanilla none "call" _ [] vr .nil
  · unfold Gives at *; simpa [evalRecv] using hrecv
  · exact (by simp [Gives, evalOpt] : Gives (evalOpt (fuel + 2) none env) s2 .nil s2)
  apply args_head _ _ _ _ (by intro e'; simp)
  exact infix_right "+" l r vl (by decide) hl hraise

end Pangaea.C07
