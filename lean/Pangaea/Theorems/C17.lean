/- C17 — literals and names denote what their spelling says. -/
import Pangaea.Syntax.Literal
import Pangaea.Theorems.C16
namespace Pangaea.C17
open Pangaea.Literal

theorem valueOf_snoc (base : Nat) (ds : List Nat) (d : Nat) :
    valueOf base (ds ++ [d]) = valueOf base ds * base + d := by
  rw [valueOf, List.foldl_append]; rfl

theorem foldl_shift (base : Nat) (ds : List Nat) (a b : Nat) :
    ds.foldl (fun acc d => acc * base + d) (a + b) =
      a * base ^ ds.length + ds.foldl (fun acc d => acc * base + d) b := by
  induction ds generalizing a b with
  | nil => simp
  | cons d ds ih =>
    rw [List.foldl_cons, List.foldl_cons, Nat.add_mul, Nat.add_assoc, ih, List.length_cons,
      Nat.pow_succ', Nat.mul_assoc]

/-- **Positional value.** The value of a digit string is `Σ dᵢ · baseⁿ⁻¹⁻ⁱ`: the leading digit weighs
    `base^(number of remaining digits)`. -/
theorem valueOf_cons (base : Nat) (d : Nat) (ds : List Nat) :
    valueOf base (d :: ds) = d * base ^ ds.length + valueOf base ds := by
  rw [valueOf, List.foldl_cons, Nat.zero_mul, Nat.add_comm, foldl_shift]; rfl

/- Both parsers answer `.ok` only on the last branch of a chain of rejections. -/
theorem ite_err_eq_ok {c : Prop} [Decidable c] {r : LitRes} {v : Int} :
    (if c then .err else r) = .ok v ↔ ¬ c ∧ r = .ok v := by
  split <;> simp [*]

theorem ite_ok_eq_ok {c : Prop} [Decidable c] {x v : Int} :
    (if c then LitRes.ok x else .err) = .ok v ↔ c ∧ x = v := by
  split <;> simp [*]

/-- **Integer literals.** A decimal/binary/octal/hex literal that is accepted has exactly the value of its
    digits (separators ignored) and that value fits in 64 bits … -/
theorem int_literal_exact (base : Nat) (s : List Char) (v : Int) (h : parseIntLit base s = .ok v) :
    ∃ ds, digitsOf base (stripSep s) = some ds ∧ v = (valueOf base ds : Nat) ∧ valueOf base ds ≤ maxInt64 := by
  unfold parseIntLit at h
  cases hds : digitsOf base (stripSep s) with
  | none => rw [hds] at h; cases h
  | some ds =>
    simp only [hds, ite_err_eq_ok, ite_ok_eq_ok] at h
    exact ⟨ds, rfl, h.2.2.symm, h.2.1⟩

/-- … and a literal whose value does not fit is rejected, never replaced by another value. -/
theorem int_literal_rejects_overflow (base : Nat) (s : List Char) (ds : List Nat)
    (hds : digitsOf base (stripSep s) = some ds) (hbig : ¬ valueOf base ds ≤ maxInt64) :
    parseIntLit base s = .err := by
  simp only [parseIntLit, hds, if_neg hbig, ite_self]

/-- **Exponent-form integers** denote mantissa · 10^exp exactly, or are rejected when that does not fit. -/
theorem exp_int_exact (mant exp : List Char) (ms es : List Nat) (v : Int)
    (hm : digitsOf 10 (stripSep mant) = some ms) (he : digitsOf 10 (stripSep exp) = some es)
    (h : parseExpInt mant false exp = .ok v) :
    v = (valueOf 10 ms * 10 ^ valueOf 10 es : Nat) ∧ valueOf 10 ms * 10 ^ valueOf 10 es ≤ maxInt64 := by
  simp only [parseExpInt, hm, he, expVal, Bool.false_eq_true, if_false, ite_err_eq_ok,
    ite_ok_eq_ok] at h
  exact ⟨h.2.2.2.symm, h.2.2.1⟩

theorem unquoteBody_esc {e x : Char} (cs : List Char) (h : simpleEsc e = some x) :
    unquoteBody ('\\' :: e :: cs) = (unquoteBody cs).cons x := by
  simp only [unquoteBody, beq_self_eq_true, if_true, h]

theorem unquoteBody_plain {c : Char} (cs : List Char) (h1 : c ≠ '\\') (h2 : c ≠ '"') (h3 : c ≠ '\n') :
    unquoteBody (c :: cs) = (unquoteBody cs).cons c := by
  rw [unquoteBody.eq_def]; simp [h1, h2, h3]

/-- **Strings.** Writing any string with the documented escapes and reading it back gives exactly its
    characters. -/
theorem unquote_quote (s : List Char) : unquoteBody (quoteBody s) = .ok s := by
  induction s with
  | nil => rfl
  | cons c cs ih =>
    -- an escaped character is written `\e` with `simpleEsc e` the character itself
    have esc {e x : Char} (h : simpleEsc e = some x) :
        unquoteBody (['\\', e] ++ quoteBody cs) = .ok (x :: cs) := by
      rw [List.cons_append, List.singleton_append, unquoteBody_esc _ h, ih]; rfl
    rw [quoteBody]
    by_cases h1 : c = '\\'
    · subst h1; exact esc (e := '\\') rfl
    by_cases h2 : c = '"'
    · subst h2; exact esc (e := '"') rfl
    by_cases h3 : c = '\n'
    · subst h3; exact esc (e := 'n') rfl
    by_cases h4 : c = '\t'
    · subst h4; exact esc (e := 't') rfl
    by_cases h5 : c = '\r'
    · subst h5; exact esc (e := 'r') rfl
    simp only [beq_iff_eq, h1, h2, h3, h4, h5, if_false]
    rw [List.singleton_append, unquoteBody_plain _ h1 h2 h3, ih]; rfl

/-- **Undefined escapes are rejected** (never decoded to something else). -/
theorem undefined_escape_rejected (c : Char) (cs : List Char)
    (h1 : simpleEsc c = none) (h2 : numericEsc c = false) : unquoteBody ('\\' :: c :: cs) = .err := by
  simp [unquoteBody, h1, h2]

/-- **Names.** A word of the documented identifier pattern is lexed as one identifier token with its full
    text (any length); it is a reserved word only if it *is* one of the six keywords — beginning with
    `if`, `else`, … is not enough. -/
theorem identifier_is_one_token (c : Char) (cs : List Char) (d : Char) (rest : List Char)
    (hc : Lexer.isIdentStart c = true) (hcs : ∀ x ∈ cs, Lexer.isIdentChar x = true)
    (hd : Lexer.isIdentChar d = false) (hd1 : d ≠ '!') (hd2 : d ≠ '?') :
    Lexer.matchIdent (c :: cs ++ d :: rest) = some (d :: rest) :=
  Pangaea.C16.ident_any_length c cs d rest hc hcs hd hd1 hd2

theorem keyword_prefix_is_identifier :
    classify "iffy".toList = .ident ∧ classify "elsewhere".toList = .ident ∧ classify "returned".toList = .ident ∧
    classify "raiser".toList = .ident ∧ classify "yields".toList = .ident ∧ classify "deferred?".toList = .ident ∧
    classify "if".toList = .reserved ∧ classify "defer".toList = .reserved := by decide

/-- first character of a token's regular expression after the `^(?:` anchor -/
def reHead (re : String) : Char := ((re.drop 4).toString.toList.head?).getD ' '

theorem reHead_eq (re : String) : reHead re = ((re.drop 4).front?).getD ' ' := by
  rw [reHead, String.Slice.front?_eq]; rfl

/-- **Generated obligation.** In the lexer's token table (regenerated on every run) no keyword pattern and no
    other pattern starting with a letter is tried before IDENT, except the method-literal openers `m{`, `m%{`,
    `m<{`; so a word of the identifier pattern always reaches the IDENT entry. -/
theorem no_letter_pattern_before_ident :
    ((Generated.C16.tokenTable.takeWhile (fun e => e.1 != "IDENT")).filter (fun e => (reHead e.2).isAlpha)).map (·.1)
      = ["METHOD_LITER", "METHOD_MAP_LBRACE", "METHOD_LBRACE"] ∧
    (Generated.C16.tokenTable.any (fun e => e.1 == "IDENT")) = true := by
  -- as written `reHead` decodes every pattern in full, which is most of what the kernel would spend here
  simp only [reHead_eq]
  decide +kernel

example : parseIntLit 10 "1_000_000".toList = .ok 1000000 := by decide
example : parseIntLit 16 "ff".toList = .ok 255 := by decide
example : parseIntLit 10 "9223372036854775807".toList = .ok 9223372036854775807 := by decide
example : parseIntLit 10 "99999999999999999999".toList = .err := by decide
example : parseExpInt "9007199254740993".toList false "0".toList = .ok 9007199254740993 := by decide
example : parseExpInt "1".toList false "19".toList = .err := by decide
example : unquoteBody "a\\db".toList = .err := by decide
example : unquoteBody "a\\tb".toList = .ok "a\tb".toList := by decide

end Pangaea.C17
