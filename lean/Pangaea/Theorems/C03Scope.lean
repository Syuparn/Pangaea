/- C03, part 2 — lexical scoping as a footprint theorem over the Core reference evaluator:
   evaluating anything in scope `env` changes no existing scope other than `env` itself (and the scopes owned by
   iterators, the only stateful objects); calling a function changes NO existing scope at all: its body runs in a
   scope created for that call. Proof: `Sim.pres` (Lemmas/Scope.lean), for all 29 functions of the evaluator. -/
import Pangaea.Lemmas.Scope
namespace Pangaea.C03
open Pangaea.Core

structure AllPres (fuel : Nat) : Prop where
  evalE : ∀ e env, PresM (some env) (evalE fuel e env)
  evalOpt : ∀ e env, PresM (some env) (evalOpt fuel e env)
  evalRecv : ∀ e env, PresM (some env) (evalRecv fuel e env)
  evalElems : ∀ es env, PresM (some env) (evalElems fuel es env)
  evalArgs : ∀ es env acc kw, PresM (some env) (evalArgs fuel es env acc kw)
  evalKws : ∀ ks env acc, PresM (some env) (evalKws fuel ks env acc)
  evalPairs : ∀ ps env acc, PresM (some env) (evalPairs fuel ps env acc)
  evalEmbedded : ∀ es env acc, PresM (some env) (evalEmbedded fuel es env acc)
  evalPieces : ∀ ps env acc, PresM (some env) (evalPieces fuel ps env acc)
  evalStmts : ∀ ss env, PresM (some env) (evalStmts fuel ss env)
  stmtLoop : ∀ ss env v y d, PresM (some env) (stmtLoop fuel ss env v y d)
  runDefers : ∀ ds env, PresM (some env) (runDefers fuel ds env)
  evalStmt : ∀ st env, PresM (some env) (evalStmt fuel st env)
  callVal : ∀ f args kw, PresM none (callVal fuel f args kw)
  callProp : ∀ r n args kw env, PresM none (callProp fuel r n args kw env)
  callPropQuiet : ∀ r n args env, PresM none (callPropQuiet fuel r n args env)
  builtinCall : ∀ n r args kw env, PresM none (builtinCall fuel n r args kw env)
  iterNext : ∀ id, PresM none (iterNext fuel id)
  propAdd : ∀ a r n args kw env, PresM none (propAdd fuel a r n args kw env)
  srcOf : ∀ v, PresM none (srcOf fuel v)
  nextElem : ∀ src, PresM none (nextElem fuel src)
  propChain : ∀ m a r ca n args kw env, PresM none (propChain fuel m a r ca n args kw env)
  propListLoop : ∀ a src n args kw env acc, PresM none (propListLoop fuel a src n args kw env acc)
  propReduceLoop : ∀ a src acc n args kw env, PresM none (propReduceLoop fuel a src acc n args kw env)
  litCallOne : ∀ f r env, PresM none (litCallOne fuel f r env)
  litAdd : ∀ a f r env, PresM none (litAdd fuel a f r env)
  litChain : ∀ m a r ca f env, PresM none (litChain fuel m a r ca f env)
  litListLoop : ∀ a src f env acc, PresM none (litListLoop fuel a src f env acc)
  litReduceLoop : ∀ a src acc f env, PresM none (litReduceLoop fuel a src acc f env)

theorem allPres : ∀ fuel, AllPres fuel := fun fuel => by
  constructor <;> intros <;> first
    | exact Sim.pres (n := fuel) (c := none) (m' := _) (by constructor)
    | exact Sim.pres (n := fuel) (m' := _) (by constructor)

/-- **A call changes no existing scope.** For every function value, argument list, keyword arguments, state and
    fuel: after the call every scope that existed before (and is not an iterator's own scope) is exactly as it
    was; scopes are only added. In particular assignments and compound assignments in the body (and in anything
    it calls) never change the caller's scope or the scope where the literal was written. -/
theorem call_changes_no_existing_scope (fuel : Nat) (f : Val) (args : List Val) (kwargs : List (String × Val)) (s : St) :
    Pres none s (callVal fuel f args kwargs s).2 :=
  (allPres fuel).callVal f args kwargs s

/-- **Evaluation writes only the current scope.** Evaluating any expression in scope `env` changes no other
    existing scope (iterators' own scopes excepted). -/
theorem eval_writes_only_current_scope (fuel : Nat) (e : Expr) (env : Nat) (s : St) :
    Pres (some env) s (evalE fuel e env s).2 :=
  (allPres fuel).evalE e env s

theorem program_writes_only_its_scope (fuel : Nat) (prog : List Stmt) (env : Nat) (s : St) :
    Pres (some env) s (evalStmts fuel prog env s).2 :=
  (allPres fuel).evalStmts prog env s

/-- **The body sees the defining scope.** A call's scope is a copy of the closure's own frame (which is empty but
    for the bound arguments) with the same enclosing scope: the scope where the literal was written. A name the
    call does not bind is therefore looked up, at call time, in the defining scope as it is then - later
    reassignments there are visible, the caller's variables are not. -/
theorem call_scope_encloses_definition (fenv : Nat) (params : List String) (kwd : List (String × Val)) (args : List Val)
    (kwargs : List (String × Val)) (s : St) :
    let r := enterCall fenv params kwd args kwargs s
    r.1 = .ok s.frames.length ∧
    r.2.frames[s.frames.length]? = some { vars := bindArgs params kwd args kwargs (s.frames.getD fenv default).vars,
                                          outer := (s.frames.getD fenv default).outer } := by
  simp [enterCall]


/-- **A property call passes the receiver as the first argument.** When the property found on the receiver is a
    function, the call is that function applied to the receiver followed by the arguments. -/
theorem method_call_passes_receiver (fuel : Nat) (ps : List (String × Val)) (name : String) (args : List Val)
    (kwargs : List (String × Val)) (env : Nat) (params : List String) (kwd : List (String × Val)) (body : List Stmt) (fenv : Nat)
    (h : ps.lookup name = some (.func params kwd body fenv)) :
    callProp (fuel + 1) (.obj ps) name args kwargs env = callVal fuel (.func params kwd body fenv) (.obj ps :: args) kwargs := by
  rw [callProp]; simp [h]

/-- **A receiver-less chain uses the current function's first argument** (`\\1` of the current scope). -/
theorem anonymous_chain_receiver (fuel env : Nat) (s : St) (v : Val)
    (h : lookupVar s.frames (s.frames.length + 1) env "\\1" = some v) :
    evalRecv (fuel + 1) none env s = (.ok v, s) := by
  simp [evalRecv, bindM, getVar, h]

theorem anonymous_chain_without_argument (fuel env : Nat) (s : St)
    (h : lookupVar s.frames (s.frames.length + 1) env "\\1" = none) :
    evalRecv (fuel + 1) none env s = (.err "NameErr" "name `\\1` is not defined", s) := by
  simp [evalRecv, bindM, getVar, h]

/-- **Assignment writes the innermost scope only**, and evaluates to the assigned value. -/
theorem assign_writes_current_scope (fuel env : Nat) (x : String) (e : Expr) (s s1 : St) (v : Val)
    (h : evalE fuel e env s = (.ok v, s1)) :
    evalE (fuel + 1) (.assign x e) env s
      = (.ok v, { s1 with frames := s1.frames.modify env (fun fr => { fr with vars := setAssoc x v fr.vars }) }) := by
  rw [evalE]; simp [bindM, h, setVar]


/-- **A name the call does not bind is looked up in the enclosing scope of the closure's frame** - the scope where the
    literal was written - as that scope is at the time of the call (so later reassignments there are visible, the
    caller's variables are not). -/
theorem lookup_falls_through (frames : List Frame) (n e : Nat) (x : String) (fr : Frame) (outer : Nat)
    (hfr : frames[e]? = some fr) (hx : fr.vars.lookup x = none) (ho : fr.outer = some outer) :
    lookupVar frames (n + 1) e x = lookupVar frames n outer x := by
  simp [lookupVar, hfr, hx, ho]

/-- **A name the call binds shadows every enclosing binding.** -/
theorem lookup_innermost_wins (frames : List Frame) (n e : Nat) (x : String) (fr : Frame) (v : Val)
    (hfr : frames[e]? = some fr) (hx : fr.vars.lookup x = some v) :
    lookupVar frames (n + 1) e x = some v := by
  simp [lookupVar, hfr, hx]

end Pangaea.C03
