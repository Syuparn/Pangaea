/- C10 — integer arithmetic and comparison return the mathematically exact result. -/
import Pangaea.Lemmas.IntArith
namespace Pangaea.C10
open Pangaea Pangaea.IntArith Pangaea.IntArithLemmas

theorem add_exact (a b : Int) (h : fits64 (a + b)) : add a b = .int (a + b) := by
  simp only [add, wrap64_of_fits h]

theorem sub_exact (a b : Int) (h : fits64 (a - b)) : sub a b = .int (a - b) := by
  simp only [sub, wrap64_of_fits h]

theorem mul_exact (a b : Int) (h : fits64 (a * b)) : mul a b = .int (a * b) := by
  simp only [mul, wrap64_of_fits h]

theorem neg_exact (a : Int) (h : fits64 (-a)) : neg a = .int (-a) := by
  simp only [neg, wrap64_of_fits h]

theorem tdiv_fits (a b : Int) (ha : fits64 a) (h0 : b ≠ 0)
    (hx : ¬ (a = -9223372036854775808 ∧ b = -1)) : fits64 (a.tdiv b) := by
  by_cases hb1 : b = 1
  · rw [hb1, Int.tdiv_one]; exact ha
  suffices h : (a.tdiv b).natAbs ≤ 9223372036854775807 by unfold fits64; omega
  unfold fits64 at ha
  rw [Int.natAbs_tdiv]
  show a.natAbs / b.natAbs ≤ _
  by_cases hm : b = -1
  · rw [hm] at hx ⊢; show a.natAbs / 1 ≤ _; omega
  · exact Nat.le_trans (Nat.div_le_div_left (show 2 ≤ b.natAbs by omega) (by decide)) (by omega)

/-- **Floor division.** For int64 operands with a non-zero divisor, whenever the floor quotient fits in
    64 bits, `a // b` is exactly `⌊a/b⌋` (`Int.fdiv`), which is the unique `q` with `q·b ≤ a < (q+1)·b`
    (mirrored for a negative divisor). -/
theorem floorDiv_exact (a b : Int) (ha : fits64 a) (hb : fits64 b) (h0 : b ≠ 0)
    (hq : fits64 (a.fdiv b)) :
    floorDiv a b = .int (a.fdiv b) ∧ IsFloorQuot a b (a.fdiv b) := by
  refine ⟨?_, isFloorQuot_fdiv a b⟩
  have hx : ¬ (a = -9223372036854775808 ∧ b = -1) := by
    rintro ⟨rfl, rfl⟩
    revert hq; decide
  rw [fdiv_eq_tdiv_corrected a b h0] at hq ⊢
  simp only [floorDiv, h0, if_false, goDiv, goMod, wrap64_of_fits (tdiv_fits a b ha h0 hx)]
  split
  · rw [if_pos ‹_›] at hq; rw [wrap64_of_fits hq]
  · rfl

/-- **Remainder.** `a % b = r` with `|r| < |b|` and `b ∣ a − r` (Go's truncated remainder). -/
theorem mod_spec (a b : Int) (h0 : b ≠ 0) :
    ∃ r, mod a b = .int r ∧ r.natAbs < b.natAbs ∧ b ∣ a - r := by
  refine ⟨a.tmod b, if_neg h0, ?_, a.tdiv b, ?_⟩
  · rw [Int.natAbs_tmod]; exact Nat.mod_lt _ (Int.natAbs_pos.mpr h0)
  · have := Int.tmod_add_mul_tdiv a b; omega

/-- the decision procedure `remOk` used as the specification of `%` in the correspondence is
    exactly the property's relation -/
theorem remOk_iff (a b r : Int) : remOk a b r = true ↔ (r.natAbs < b.natAbs ∧ b ∣ a - r) := by
  simp [remOk, Int.dvd_iff_emod_eq_zero]

theorem mod_remOk (a b : Int) (h0 : b ≠ 0) : ∃ r, mod a b = .int r ∧ remOk a b r = true := by
  obtain ⟨r, h, h1, h2⟩ := mod_spec a b h0
  exact ⟨r, h, (remOk_iff a b r).2 ⟨h1, h2⟩⟩

/-- **Zero divisor.** `/`, `//` and `%` by zero raise ZeroDivisionErr. -/
theorem zero_divisor (a : Int) : div a 0 = .zeroDiv ∧ floorDiv a 0 = .zeroDiv ∧ mod a 0 = .zeroDiv := by
  simp [div, floorDiv, mod]

/-- **True division** is the float quotient of the two operands converted to floats
    (float arithmetic itself is a parameter of the model). -/
theorem div_is_float_quotient (a b : Int) (h0 : b ≠ 0) : div a b = .floatDiv a b := by
  simp [div, h0]

/-- **Comparison.** `a <=> b` is -1, 0 or 1 according to the numeric order. -/
theorem cmp_spec (a b : Int) :
    (a < b → cmp a b = .int (-1)) ∧ (a = b → cmp a b = .int 0) ∧ (a > b → cmp a b = .int 1) := by
  unfold cmp
  refine ⟨fun h => ?_, fun h => ?_, fun h => ?_⟩
  · simp [show ¬ a > b by omega, show ¬ a = b by omega]
  · simp [h]
  · simp [h]

/-- **Power.** For `b ≥ 0`, whenever `a^b` fits in 64 bits, `a ** b` is exactly `a^b`. -/
theorem pow_exact (a b : Int) (hb : 0 ≤ b) (hf : fits64 (a ^ b.toNat)) :
    pow a b = .int (a ^ b.toNat) := by
  unfold pow intPow
  have h1 : ¬ b < 0 := by omega
  have h2 : ¬ (b > 63 ∧ (a > 1 ∨ a < -1)) := by
    rintro ⟨hb63, hab⟩
    exact two64_le_pow a b.toNat (by omega) hab hf
  simp [h1, h2, ipow_eq, hf]

example : floorDiv (-1) 2 = .int (-1) := by decide
example : floorDiv 7 (-2) = .int (-4) := by decide
example : floorDiv (-9223372036854775808) (-1) = .int (-9223372036854775808) := by decide  -- does not fit: outside the property
example : pow 3 35 = .int 50031545098999707 := by decide
example : pow 2 62 = .int 4611686018427387904 := by decide
example : pow 2 64 = .floatPow 2 64 := by decide
example : fits64 (-1) ∧ fits64 2 ∧ fits64 ((-1 : Int).fdiv 2) := by decide
/-- the code before the repair: `-1 // 2` evaluated to 0 -/
example : floorDivOld (-1) 2 = 0 := by decide

end Pangaea.C10
