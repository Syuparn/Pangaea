/- C08 (and C07) — output and input are monotone: whatever is evaluated, printed lines are only appended (never
   retracted or reordered) and standard input is only consumed from the front. Instances of the invariance
   principle `allStable` (Lemmas/Stable.lean) for all 29 functions of the Core evaluator. -/
import Pangaea.Lemmas.Stable
namespace Pangaea.C08
open Pangaea.Core

def OutGrows (s s' : St) : Prop := ∃ suf, s'.out = s.out ++ suf
def InpConsumed (s s' : St) : Prop := ∃ pre, s.inp = pre ++ s'.inp

theorem OutGrows.of_eq {s s' : St} (h : s'.out = s.out) : OutGrows s s' := ⟨[], by rw [h, List.append_nil]⟩
theorem InpConsumed.of_eq {s s' : St} (h : s'.inp = s.inp) : InpConsumed s s' := ⟨[], by rw [h]; rfl⟩

theorem outGrows_prim : PrimStable OutGrows where
  refl := fun _ => .of_eq rfl
  trans := fun ⟨x, hx⟩ ⟨y, hy⟩ => ⟨x ++ y, by rw [hy, hx, List.append_assoc]⟩
  setVar := fun _ _ _ _ => .of_eq rfl
  allocFrame := fun _ _ => .of_eq rfl
  copyFrame := fun _ _ => .of_eq rfl
  enterCall := fun _ _ _ _ _ _ => .of_eq rfl
  printLine := fun l _ => ⟨[l], rfl⟩
  readLine := fun s => by unfold readLine; cases s.inp <;> exact .of_eq rfl
  newIter := fun _ _ _ _ _ => .of_eq rfl
  copyIter := fun _ _ => .of_eq rfl
  repointIter := fun _ _ _ => .of_eq rfl

theorem inpConsumed_prim : PrimStable InpConsumed where
  refl := fun _ => .of_eq rfl
  trans := fun ⟨x, hx⟩ ⟨y, hy⟩ => ⟨x ++ y, by rw [hx, hy, List.append_assoc]⟩
  setVar := fun _ _ _ _ => .of_eq rfl
  allocFrame := fun _ _ => .of_eq rfl
  copyFrame := fun _ _ => .of_eq rfl
  enterCall := fun _ _ _ _ _ _ => .of_eq rfl
  printLine := fun _ _ => .of_eq rfl
  readLine := fun s => by
    unfold readLine
    cases h : s.inp with
    | nil => exact .of_eq rfl
    | cons l rest => exact ⟨[l], h⟩
  newIter := fun _ _ _ _ _ => .of_eq rfl
  copyIter := fun _ _ => .of_eq rfl
  repointIter := fun _ _ _ => .of_eq rfl

/-- **Output only grows.** For every expression, scope, state and fuel: the lines printed so far are a prefix of the
    lines printed afterwards - whether the evaluation ends in a value or in an error. -/
theorem output_only_grows (fuel : Nat) (e : Expr) (env : Nat) (s : St) : OutGrows s (evalE fuel e env s).2 :=
  (allStable outGrows_prim fuel).evalE e env s

theorem program_output_only_grows (fuel : Nat) (prog : List Stmt) (env : Nat) (s : St) : OutGrows s (evalStmts fuel prog env s).2 :=
  (allStable outGrows_prim fuel).evalStmts prog env s

theorem call_output_only_grows (fuel : Nat) (f : Val) (args : List Val) (kw : List (String × Val)) (s : St) :
    OutGrows s (callVal fuel f args kw s).2 :=
  (allStable outGrows_prim fuel).callVal f args kw s

/-- **Standard input is only consumed from the front.** -/
theorem stdin_only_consumed (fuel : Nat) (e : Expr) (env : Nat) (s : St) : InpConsumed s (evalE fuel e env s).2 :=
  (allStable inpConsumed_prim fuel).evalE e env s

end Pangaea.C08
