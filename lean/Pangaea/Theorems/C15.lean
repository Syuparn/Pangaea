/- C15 — deferred expressions run exactly once, in order, on every way out of a function.
   The theorems hold for every state type, every statement semantics `ev`, every deferred-expression
   semantics `evd`, every body. -/
import Pangaea.Lemmas.Stmts
namespace Pangaea.C15
open Pangaea.Stmts Pangaea.StmtsLemmas

variable {S σ V D : Type}

/-- **Body.** The Go statement loop (early returns, three mutable locals) computes the declarative
    reference: it leaves at the first statement that returns, raises or yields an error; the defers it
    hands over are exactly those of the statements completed before that exit, in reach order; the
    value of a body that falls off its end is its first yield, else its last statement's value. -/
theorem evalBody_eq_spec (ev : S → σ → SVal V D × σ) (nil : V) (stmts : List S) (s : σ) :
    evalBody ev nil stmts s = specBody ev nil stmts s :=
  evalLoop_spec ev nil stmts s nil none []

/-- **Reached defers only.** Defers of statements after the exit are not handed over. -/
theorem defers_are_reached (ev : S → σ → SVal V D × σ) (nil : V) (stmts : List S) (s : σ) :
    (evalBody ev nil stmts s).2.1 = reachedDefers (scan ev stmts s) := by
  rw [evalBody_eq_spec, specBody]
  split <;> rfl

/-- **Once each, in order.** `evalDefer` evaluates the deferred expressions front to back, each once,
    and stops after the first one that raises: the log is `ds` when none fails and `ds.take (k+1)` when
    the k-th is the first to fail, in which case its error is returned. -/
theorem evalDefer_log (evd : D → σ → Option V × σ) (ds : List D) (s : σ) :
    match firstFailing evd ds s with
    | none => (evalDefer evd ds s).1 = none ∧ (evalDefer evd ds s).2.2 = ds
    | some (k, e) => (evalDefer evd ds s).1 = some e ∧ (evalDefer evd ds s).2.2 = ds.take (k + 1) := by
  induction ds generalizing s with
  | nil => exact ⟨rfl, rfl⟩
  | cons d rest ih =>
    unfold firstFailing evalDefer
    rcases evd d s with ⟨r, s'⟩
    cases r with
    | some e => exact ⟨rfl, rfl⟩
    | none =>
      have ih' := ih s'
      dsimp only
      cases hf : firstFailing evd rest s' <;> rw [hf] at ih' <;>
        exact ⟨ih'.1, congrArg (d :: ·) ih'.2⟩

/-- **Outcome.** The function's value or error is the body's, unless a deferred expression raises:
    then it is that expression's error. -/
theorem evalStmts_outcome (ev : S → σ → SVal V D × σ) (evd : D → σ → Option V × σ) (nil : V)
    (stmts : List S) (s : σ) :
    let b := specBody ev nil stmts s
    match firstFailing evd b.2.1 b.2.2 with
    | none => (evalStmts ev evd nil stmts s).1 = b.1
    | some (_, e) => (evalStmts ev evd nil stmts s).1 = .err e := by
  intro b
  have hl := evalDefer_log evd b.2.1 b.2.2
  unfold evalStmts
  rw [evalBody_eq_spec]
  cases hf : firstFailing evd b.2.1 b.2.2 <;> simp only [hf] at hl ⊢ <;> rw [hl.1]

section witness
inductive St where
  | print (m : String) | deferPrint (m : String) | ret (v : Nat) | raise (m : String)
def evSt : St → List String → SVal (Nat ⊕ String) String × List String
  | .print m, out => (.val (.inl 0), out ++ [m])
  | .deferPrint m, out => (.dfr m, out)
  | .ret v, out => (.ret (.inl v), out)
  | .raise m, out => (.err (.inr m), out)
def evdSt (m : String) (out : List String) : Option (Nat ⊕ String) × List String := (none, out ++ [m])

-- `{|| defer "d1".p; "a".p; defer "d2".p; return 7; defer "d3".p}`: d1, d2 run once, in order, after the body
example : evalStmts evSt evdSt (.inl 0) [.deferPrint "d1", .print "a", .deferPrint "d2", .ret 7, .deferPrint "d3"] []
    = (.val (.inl 7), ["a", "d1", "d2"]) := by decide
example : evalStmts evSt evdSt (.inl 0) [.deferPrint "d1", .raise "boom", .deferPrint "d2"] []
    = (.err (.inr "boom"), ["d1"]) := by decide
-- a body whose last statement is a defer evaluates to nil (not to the DeferObj)
example : evalStmts evSt evdSt (.inl 0) [.print "b", .deferPrint "d"] [] = (.val (.inl 0), ["b", "d"]) := by decide
end witness

end Pangaea.C15
