/- C09 — object and map literals, unpacking and accessors keep their documented key rules.
   The theorems hold for every pair list (any size, any duplicate pattern), every key equivalence that
   never relates a hashable key to a non-hashable one. -/
import Pangaea.Lemmas.Names
namespace Pangaea.C09
open Pangaea.Dict

variable {K V : Type}

/- `keep` is a set of keys closed under `eqv` on the class of `k`: filtering by it does not change what a
   search for `k` finds, and commutes with first-wins insertion. -/

theorem hasKey_filter (eqv : K → K → Bool) (keep : K → Bool) (d : List (K × V)) (k : K)
    (h : ∀ q, eqv k q = true → keep q = true) :
    hasKey eqv (d.filter (fun p => keep p.1)) k = hasKey eqv d k := by
  unfold hasKey
  rw [List.any_filter]
  congr; funext q
  cases he : eqv k q.1
  · exact Bool.and_false _
  · rw [h _ he]; rfl

theorem lookupFirst_filter (eqv : K → K → Bool) (keep : K → Bool) (d : List (K × V)) (k : K)
    (h : ∀ q, eqv k q = true → keep q = true) :
    lookupFirst eqv (d.filter (fun p => keep p.1)) k = lookupFirst eqv d k := by
  unfold lookupFirst
  rw [List.find?_filter]
  congr; funext q
  cases he : eqv k q.1
  · simp
  · simp [h _ he]

theorem filter_insertFirst (eqv : K → K → Bool) (keep : K → Bool) (d : List (K × V)) (p : K × V)
    (h : ∀ q, eqv p.1 q = true → keep q = keep p.1) :
    (insertFirst eqv d p).filter (fun q => keep q.1) =
      if keep p.1 then insertFirst eqv (d.filter (fun q => keep q.1)) p else d.filter (fun q => keep q.1) := by
  unfold insertFirst
  by_cases hk : keep p.1 = true
  · rw [if_pos hk, hasKey_filter eqv keep d p.1 fun q hq => (h q hq).trans hk]
    split
    · rfl
    · rw [List.filter_append, List.filter_cons, if_pos hk]; rfl
  · rw [if_neg hk]
    split
    · rfl
    · rw [List.filter_append, List.filter_cons, if_neg hk]; exact List.append_nil _

/-- **Maps = one ordered dictionary.** The Go structure (hash map with an order slice for scalar keys,
    scanned slice for the others) holds exactly the first-wins dictionary of all pairs, split into its
    scalar keys (in insertion order) and its other keys (in insertion order). -/
theorem buildMap_eq_spec (eqv : K → K → Bool) (isScalar : K → Bool)
    (hsc : ∀ a b, eqv a b = true → isScalar a = isScalar b) (ps : List (K × V)) :
    (buildMap eqv isScalar ps).scalars = (dedupFirst eqv ps).filter (fun p => isScalar p.1) ∧
    (buildMap eqv isScalar ps).others = (dedupFirst eqv ps).filter (fun p => !isScalar p.1) := by
  -- the two stores are the two filters of the dictionary built so far, pair by pair
  refine List.foldl_rel (r := fun (m : PanMap K V) (d : List (K × V)) => m.scalars = d.filter (fun p => isScalar p.1) ∧
    m.others = d.filter (fun p => !isScalar p.1)) ⟨rfl, rfl⟩ fun p _ m d ⟨h1, h2⟩ => ?_
  rw [filter_insertFirst eqv isScalar d p fun q hq => (hsc _ _ hq).symm,
    filter_insertFirst eqv (fun k => !isScalar k) d p fun q hq => by rw [hsc _ _ hq], ← h1, ← h2]
  unfold insertFirst
  cases isScalar p.1
  · cases hasKey eqv m.others p.1 <;> exact ⟨rfl, rfl⟩
  · cases hasKey eqv m.scalars p.1 <;> exact ⟨rfl, rfl⟩

/-- **Iteration order**: scalar keys in insertion order followed by the other keys in insertion order. -/
theorem iter_order (eqv : K → K → Bool) (isScalar : K → Bool)
    (hsc : ∀ a b, eqv a b = true → isScalar a = isScalar b) (ps : List (K × V)) :
    (buildMap eqv isScalar ps).iter =
      (dedupFirst eqv ps).filter (fun p => isScalar p.1) ++ (dedupFirst eqv ps).filter (fun p => !isScalar p.1) := by
  unfold PanMap.iter
  rw [(buildMap_eq_spec eqv isScalar hsc ps).1, (buildMap_eq_spec eqv isScalar hsc ps).2]

/-- **Indexing**: `m[k]` is the value stored under the first key equivalent to `k`. -/
theorem get_eq_spec (eqv : K → K → Bool) (isScalar : K → Bool)
    (hsc : ∀ a b, eqv a b = true → isScalar a = isScalar b) (ps : List (K × V)) (k : K) :
    (buildMap eqv isScalar ps).get eqv isScalar k = lookupFirst eqv (dedupFirst eqv ps) k := by
  unfold PanMap.get
  rw [(buildMap_eq_spec eqv isScalar hsc ps).1, (buildMap_eq_spec eqv isScalar hsc ps).2]
  split
  · next hk => exact lookupFirst_filter eqv isScalar _ k fun q hq => hsc _ _ hq ▸ hk
  · next hk => exact lookupFirst_filter eqv (fun x => !isScalar x) _ k fun q hq => by rw [← hsc _ _ hq]; simpa using hk

/-- **First occurrence wins** (maps and objects): an earlier pair is never displaced. -/
theorem insertFirst_keeps (eqv : K → K → Bool) (d : List (K × V)) (p : K × V) (k : K) (v : V)
    (h : lookupFirst eqv d k = some v) : lookupFirst eqv (insertFirst eqv d p) k = some v := by
  unfold insertFirst
  split
  · exact h
  · unfold lookupFirst at h ⊢
    rw [List.find?_append]
    cases hf : d.find? (fun q => eqv k q.1) with
    | none => rw [hf] at h; cases h
    | some q => rw [hf] at h; exact h

theorem dedupFirst_first_wins (eqv : K → K → Bool) (pre post : List (K × V)) (k : K) (v : V)
    (h : lookupFirst eqv (dedupFirst eqv pre) k = some v) :
    lookupFirst eqv (dedupFirst eqv (pre ++ post)) k = some v := by
  unfold dedupFirst at *
  rw [List.foldl_append]
  exact List.foldlRecOn (motive := fun d => lookupFirst eqv d k = some v) post _ h
    fun d hd p _ => insertFirst_keeps eqv d p k v hd

/-- **One value per key**: no two stored keys are equivalent (for an equivalence relation). -/
theorem insertFirst_nodup (eqv : K → K → Bool) (hsymm : ∀ a b, eqv a b = eqv b a) (d : List (K × V)) (p : K × V)
    (h : d.Pairwise (fun a b => eqv a.1 b.1 = false)) :
    (insertFirst eqv d p).Pairwise (fun a b => eqv a.1 b.1 = false) := by
  unfold insertFirst
  split
  · exact h
  · next hk =>
    refine List.pairwise_append.2 ⟨h, List.pairwise_singleton _ _, fun a ha b hb => ?_⟩
    rw [List.mem_singleton.1 hb, hsymm]
    cases he : eqv p.1 a.1
    · rfl
    · exact absurd (List.any_eq_true.2 ⟨a, ha, he⟩) hk

theorem dedupFirst_nodup (eqv : K → K → Bool) (hsymm : ∀ a b, eqv a b = eqv b a) (ps : List (K × V)) :
    (dedupFirst eqv ps).Pairwise (fun a b => eqv a.1 b.1 = false) :=
  List.foldlRecOn ps _ .nil fun d hd p _ => insertFirst_nodup eqv hsymm d p hd

/-- **Accessors agree** (objects): `values` and `items` are `keys` mapped through the same lookup, so `len`,
    `keys`, `values`, `items` always describe the same set of pairs; private names appear only on request. -/
theorem obj_accessors_agree (o : List (String × V)) (priv : Bool) :
    objValues o priv = (objKeys o priv).map (fun n => o.lookup n) ∧
    objItems o priv = (objKeys o priv).map (fun n => (n, o.lookup n)) ∧
    (objItems o priv).map (·.1) = objKeys o priv ∧ (objItems o priv).map (·.2) = objValues o priv := by
  simp [objValues, objItems, List.map_map, Function.comp_def]

/-- names starting with `_` are hidden from `keys` unless `private?: true` -/
theorem keys_hide_private (o : List (String × V)) (n : String) (h : n ∈ objKeys o false) : isPublicName n = true := by
  simp only [objKeys, Bool.false_eq_true, if_false, List.append_nil, mem_sortNames, List.mem_filter] at h
  exact h.2

example : buildObj [("b", 1), ("a", 2), ("_p", 3), ("a", 4)] [[("c", 5), ("a", 6), ("_q", 7)]]
    = [("b", 1), ("a", 2), ("_p", 3), ("c", 5), ("_q", 7)] := by decide
example : objKeys (buildObj [("b", 1), ("a", 2), ("_p", 3)] [[("c", 5)]]) false = ["a", "b", "c"] := by decide
example : objKeys (buildObj [("b", 1), ("a", 2), ("_p", 3)] [[("c", 5)]]) true = ["a", "b", "c", "_p"] := by decide
example : (buildMap (fun (a b : Nat) => a == b) (fun k => k < 10) [(2, "b"), (12, "x"), (2, "dup"), (1, "i"), (12, "y")]).iter
    = [(2, "b"), (1, "i"), (12, "x")] := by decide

end Pangaea.C09
