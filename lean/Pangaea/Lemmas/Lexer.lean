/- C16. The three skippers are `List.dropWhile`, which stops at the first character that
   fails the test; a well-formed layout line is one iteration of `line`. -/
import Pangaea.Syntax.Lexer
namespace Pangaea.Lexer

theorem dropWhile_append_cons {α : Type} {p : α → Bool} {xs : List α} {d : α} (rest : List α)
    (hxs : ∀ c ∈ xs, p c = true) (hd : p d = false) : (xs ++ d :: rest).dropWhile p = d :: rest := by
  rw [List.dropWhile_append_of_pos hxs, List.dropWhile_cons_of_neg (by simp [hd])]

theorem eq_dropWhile {α : Type} {p : α → Bool} {f : List α → List α} (hnil : f [] = [])
    (hcons : ∀ c cs, f (c :: cs) = if p c then f cs else c :: cs) : f = List.dropWhile p := by
  funext s
  induction s with
  | nil => exact hnil
  | cons c cs ih => rw [hcons, List.dropWhile_cons, ih]

theorem skipWs_eq_dropWhile : skipWs = List.dropWhile isWs := eq_dropWhile rfl fun _ _ => rfl

theorem skipBody_eq_dropWhile : skipBody = List.dropWhile (fun c => !isNl c) :=
  eq_dropWhile rfl fun c _ => by rw [skipBody]; cases isNl c <;> rfl

theorem skipIdentChars_eq_dropWhile : skipIdentChars = List.dropWhile isIdentChar := eq_dropWhile rfl fun _ _ => rfl

theorem skipWs_append {ws : List Char} {c : Char} (rest : List Char) (hws : ∀ c ∈ ws, isWs c = true)
    (hc : isWs c = false) : skipWs (ws ++ c :: rest) = c :: rest := by
  rw [skipWs_eq_dropWhile]; exact dropWhile_append_cons rest hws hc

theorem skipBody_append {b : List Char} {n : Char} (rest : List Char) (hb : ∀ c ∈ b, isNl c = false)
    (hn : isNl n = true) : skipBody (b ++ n :: rest) = n :: rest := by
  rw [skipBody_eq_dropWhile]
  exact dropWhile_append_cons rest (fun c hc => by rw [hb c hc]; rfl) (by rw [hn]; rfl)

theorem isWs_of_isNl {c : Char} (h : isNl c = true) : isWs c = false := by
  simp only [isNl, Bool.or_eq_true, beq_iff_eq] at h
  rcases h with rfl | rfl <;> rfl

theorem skipComment_of_isNl {n : Char} (rest : List Char) (hn : isNl n = true) :
    skipComment (n :: rest) = n :: rest :=
  skipComment.eq_2 _ fun _ h => by cases h; exact absurd hn (by decide)

theorem line_chars (l : LLine) (rest : List Char) : line (l.chars ++ rest) = some rest := by
  obtain ⟨ws, comment, nl, hws, hcm, hnl⟩ := l
  have h : skipComment (skipWs (LLine.chars ⟨ws, comment, nl, hws, hcm, hnl⟩ ++ rest)) = nl :: rest := by
    cases comment with
    | none =>
      simp only [LLine.chars, List.nil_append, List.append_assoc, List.singleton_append]
      rw [skipWs_append rest hws (isWs_of_isNl hnl), skipComment_of_isNl rest hnl]
    | some b =>
      simp only [LLine.chars, List.append_assoc, List.cons_append, List.nil_append]
      rw [skipWs_append _ hws (by rfl)]
      exact skipBody_append rest (hcm b rfl) hnl
  simp only [line, h, hnl, if_true]

theorem line_runChars_cons (l : LLine) (ls : List LLine) (k : List Char) :
    line (runChars (l :: ls) ++ k) = some (runChars ls ++ k) := by
  rw [runChars, List.append_assoc]; exact line_chars l _

theorem lines_run (ls : List LLine) (k : List Char) (fuel : Nat) (hf : ls.length ≤ fuel)
    (hk : line k = none) : lines fuel (runChars ls ++ k) = k := by
  induction ls generalizing fuel with
  | nil => cases fuel <;> simp [runChars, lines, hk]
  | cons l ls ih =>
    cases fuel with
    | zero => cases hf
    | succ f =>
      simp only [lines, line_runChars_cons]
      exact ih f (Nat.le_of_succ_le_succ hf)

theorem runChars_length (ls : List LLine) : ls.length ≤ (runChars ls).length := by
  induction ls with
  | nil => exact Nat.le_refl 0
  | cons l ls ih => simp only [runChars, LLine.chars, List.length_append, List.length_cons]; omega

theorem afterRET_run (ls : List LLine) (k : List Char) (hk : line k = none) :
    afterRET (runChars ls ++ k) = k :=
  lines_run ls k _ (by rw [List.length_append]; exact Nat.le_add_right_of_le (runChars_length ls)) hk

end Pangaea.Lexer
