/- Lemmas about `bindArgs` (argument binding of the Core evaluator). Every layer of `bindArgs` is a list of
   writes (`writeAll`), so the whole is one: `callWrites`. A lookup after a list of writes finds the last write to
   the name, and when the names written are distinct, any of the writes. -/
import Pangaea.Core.Eval
import Pangaea.Lemmas.Assoc
import Std.Data.String.ToNat
namespace Pangaea.Core

/-- as far as a lookup can tell, `setAssoc` puts the pair in front -/
theorem lookup_setAssoc (x y : String) (v : Val) (l : List (String × Val)) :
    (setAssoc x v l).lookup y = ((x, v) :: l).lookup y := by
  fun_induction setAssoc x v l with
  | case1 => rfl
  | case2 a b l h => cases eq_of_beq h; simp only [List.lookup_cons]; cases y == x <;> rfl
  | case3 a b l h ih =>
    simp only [List.lookup_cons] at ih ⊢
    rw [ih]
    cases hya : y == a <;> cases hyx : y == x <;> try rfl
    cases h (beq_iff_eq.2 ((eq_of_beq hyx).symm.trans (eq_of_beq hya)))

/-- the writes `ws`, first to last, on `acc` -/
def writeAll (ws acc : List (String × Val)) : List (String × Val) := ws.foldl (fun acc p => setAssoc p.1 p.2 acc) acc

/-- the last write to a name wins; a name that is not written keeps what it had -/
theorem lookup_writeAll (ws acc : List (String × Val)) (y : String) :
    (writeAll ws acc).lookup y = (ws.reverse.lookup y).or (acc.lookup y) := by
  induction ws generalizing acc with
  | nil => rfl
  | cons w ws ih =>
    rw [List.reverse_cons, List.lookup_append, Option.or_assoc, ← List.lookup_append, List.singleton_append,
      ← lookup_setAssoc]
    exact ih _

theorem nodup_keys_reverse {ws : List (String × Val)} (hnd : (ws.map (·.1)).Nodup) : (ws.reverse.map (·.1)).Nodup :=
  ((List.reverse_perm ws).map _).nodup_iff.2 hnd

theorem lookup_writeAll_of_mem {ws : List (String × Val)} (hnd : (ws.map (·.1)).Nodup) (acc : List (String × Val))
    {y : String} {v : Val} (hm : (y, v) ∈ ws) : (writeAll ws acc).lookup y = some v := by
  rw [lookup_writeAll, lookup_of_mem (nodup_keys_reverse hnd) (List.mem_reverse.2 hm), Option.some_or]

def argName (i : Nat) : String := "\\" ++ toString i

/-- a plain identifier: no leading backslash -/
def Ident (x : String) : Prop := ∀ z, x ≠ "\\" ++ z

theorem argName_inj {i j : Nat} (h : argName i = argName j) : i = j :=
  Nat.repr_injective ((String.append_right_inj "\\").1 h)

/-- not the decimal numeral of a number (every identifier qualifies) -/
def NotNumeral (k : String) : Prop := ∀ n : Nat, k ≠ toString n

theorem notNumeral_of_nondigit (k : String) (c : Char) (hc : c ∈ k.toList) (hd : c.isDigit = false) : NotNumeral k := by
  intro n he
  have hl : k.toList = Nat.toDigits 10 n := by rw [he]; exact Nat.toList_repr
  rw [hl] at hc
  have := Nat.isDigit_of_mem_toDigits (by omega) (by omega) hc
  rw [hd] at this; cases this

theorem notNumeral_empty : NotNumeral "" := by
  intro n he
  have hl : ("" : String).toList = Nat.toDigits 10 n := by rw [he]; exact Nat.toList_repr
  simp at hl

theorem notNumeral_underscore : NotNumeral "_" :=
  notNumeral_of_nondigit "_" '_' (by decide) (by decide)

/-- the same writes, to the backslash variables of these names -/
def backslash (ws : List (String × Val)) : List (String × Val) := ws.map fun p => ("\\" ++ p.1, p.2)

theorem backslash_append (ws ws' : List (String × Val)) : backslash (ws ++ ws') = backslash ws ++ backslash ws' :=
  List.map_append

theorem mem_backslash {ws : List (String × Val)} {z : String} {v : Val} (h : (z, v) ∈ ws) :
    ("\\" ++ z, v) ∈ backslash ws :=
  List.mem_map.2 ⟨_, h, rfl⟩

theorem nodup_keys_backslash {ws : List (String × Val)} (h : (ws.map (·.1)).Nodup) :
    ((backslash ws).map (·.1)).Nodup := by
  rw [backslash, List.map_map]
  exact (List.pairwise_map.1 h).map _ fun a b hab he => hab ((String.append_right_inj _).1 he)

/-- identifiers and backslash variables never clash -/
theorem nodup_keys_of_ident {ids ids' zs zs' : List (String × Val)} (hid : ∀ x ∈ (ids ++ ids').map (·.1), Ident x)
    (h1 : ((ids ++ ids').map (·.1)).Nodup) (h2 : ((zs ++ zs').map (·.1)).Nodup) :
    ((ids ++ backslash zs ++ ids' ++ backslash zs').map (·.1)).Nodup := by
  have hp : (ids ++ backslash zs ++ ids' ++ backslash zs').Perm (ids ++ ids' ++ backslash (zs ++ zs')) := by
    simp only [backslash_append, List.append_assoc]
    exact (List.perm_append_comm_assoc ..).append_left ids
  rw [(hp.map _).nodup_iff, List.map_append, List.nodup_append]
  refine ⟨h1, nodup_keys_backslash h2, fun x hx y hy he => ?_⟩
  obtain ⟨p, hp, rfl⟩ := List.mem_map.1 hy
  obtain ⟨q, -, rfl⟩ := List.mem_map.1 hp
  exact hid x hx q.1 he

theorem bindPositional_eq : ∀ (ps : List String) (as : List Val) (acc : List (String × Val)),
    bindPositional ps as acc = writeAll (ps.zip as) acc
  | [], _, _ | _ :: _, [], _ => rfl
  | _ :: ps, _ :: as, _ => bindPositional_eq ps as _

theorem bindArgVars_eq : ∀ (i : Nat) (as : List Val) (acc : List (String × Val)),
    bindArgVars i as acc = writeAll (backslash (((List.range' i as.length).map toString).zip as)) acc
  | _, [], _ => rfl
  | i, _ :: as, _ => bindArgVars_eq (i + 1) as _

theorem bindFirst_eq (as : List Val) (acc : List (String × Val)) :
    bindFirst as acc = writeAll (backslash ((as.take 1).map fun a => ("", a))) acc := by
  cases as <;> rfl

theorem bindKwParams_eq (kwargs : List (String × Val)) : ∀ (kwd acc : List (String × Val)),
    bindKwParams kwargs kwd acc = writeAll (kwd.map fun p => (p.1, (kwargs.lookup p.1).getD p.2)) acc
  | [], _ => rfl
  | _ :: kwd, _ => bindKwParams_eq kwargs kwd _

theorem bindKwVars_eq : ∀ (kwargs acc : List (String × Val)), bindKwVars kwargs acc = writeAll (backslash kwargs) acc
  | [], _ => rfl
  | _ :: kwargs, _ => bindKwVars_eq kwargs _

/-- the bindings of a call that receives `padded`, in the order in which `assignArgsToEnv` makes them: the parameters;
    `\\1`, `\\2`, …, `\\0`, `\\`; the keyword parameters; `\\name` for every keyword argument, `\\_`.
    (`\\` is the backslash variable of the empty name: hence `C03.Names` asks keyword names to be non-empty.) -/
def callWrites (params : List String) (kwd : List (String × Val)) (padded : List Val) (kwargs : List (String × Val)) :
    List (String × Val) :=
  params.zip padded
    ++ backslash (((List.range' 1 padded.length).map toString).zip padded ++ [(toString 0, .arr padded)]
        ++ (padded.take 1).map fun a => ("", a))
    ++ kwd.map (fun p => (p.1, (kwargs.lookup p.1).getD p.2))
    ++ backslash (kwargs ++ [("_", .obj kwargs)])

theorem bindArgs_eq (params : List String) (kwd : List (String × Val)) (args : List Val)
    (kwargs base : List (String × Val)) :
    bindArgs params kwd args kwargs base = writeAll (callWrites params kwd (padArgs params.length args) kwargs) base := by
  simp only [bindArgs, bindPositional_eq, bindArgVars_eq, bindFirst_eq, bindKwParams_eq, bindKwVars_eq]
  simp only [callWrites, backslash_append, writeAll, List.foldl_append]
  rfl

theorem mem_callWrites {params : List String} {kwd kwargs : List (String × Val)} {padded : List Val}
    {p : String × Val} :
    p ∈ callWrites params kwd padded kwargs ↔
      p ∈ params.zip padded ∨ p ∈ backslash (((List.range' 1 padded.length).map toString).zip padded)
      ∨ p ∈ backslash [(toString 0, .arr padded)] ∨ p ∈ backslash ((padded.take 1).map fun a => ("", a))
      ∨ p ∈ kwd.map (fun p => (p.1, (kwargs.lookup p.1).getD p.2)) ∨ p ∈ backslash kwargs
      ∨ p ∈ backslash [("_", .obj kwargs)] := by
  simp only [callWrites, backslash_append, List.mem_append, or_assoc]

end Pangaea.Core
