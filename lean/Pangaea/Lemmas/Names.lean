/- The sorted name lists of objects (`sort.Strings` in `keyHashes` and `Obj#keys`): an insertion sort, which the models
   transcribe twice (`Dict.sortNames` for C08 / C09, `Proto.sortNames` for C05). -/
import Pangaea.Object.Dict
import Pangaea.Object.Proto
namespace Pangaea.Dict

theorem insertName_perm (n : String) (ns : List String) : (insertName n ns).Perm (n :: ns) := by
  induction ns with
  | nil => exact .refl _
  | cons m ms ih =>
    unfold insertName
    split
    · exact .refl _
    · exact (ih.cons m).trans (.swap n m ms)

theorem sortNames_perm (ns : List String) : (sortNames ns).Perm ns := by
  induction ns with
  | nil => exact .refl _
  | cons n ns ih => exact (insertName_perm n _).trans (ih.cons n)

theorem mem_sortNames (x : String) (ns : List String) : x ∈ sortNames ns ↔ x ∈ ns := (sortNames_perm ns).mem_iff

theorem insertName_sorted (n : String) (ns : List String) (h : ns.Pairwise (· ≤ ·)) : (insertName n ns).Pairwise (· ≤ ·) := by
  induction ns with
  | nil => exact List.pairwise_singleton ..
  | cons m ms ih =>
    obtain ⟨hm, hms⟩ := List.pairwise_cons.1 h
    unfold insertName; split
    · next hle =>
      exact List.pairwise_cons.2 ⟨fun x hx => (List.mem_cons.1 hx).elim (· ▸ hle) (String.le_trans hle <| hm x ·), h⟩
    · next hnle =>
      refine List.pairwise_cons.2 ⟨fun x hx => ?_, ih hms⟩
      rcases List.mem_cons.1 ((insertName_perm n ms).mem_iff.1 hx) with rfl | hx
      · exact (String.le_total m x).resolve_right hnle
      · exact hm x hx

theorem sortNames_sorted (ns : List String) : (sortNames ns).Pairwise (· ≤ ·) := by
  induction ns with
  | nil => exact .nil
  | cons n ns ih => exact insertName_sorted n _ ih

end Pangaea.Dict

namespace Pangaea.Proto

theorem sortNames_eq_dict : sortNames = Dict.sortNames := by
  have hi : ∀ n ms, insertName n ms = Dict.insertName n ms := fun n ms => by
    induction ms with
    | nil => rfl
    | cons m ms ih => rw [insertName, Dict.insertName, ih]
  funext ns
  induction ns with
  | nil => rfl
  | cons n ns ih => rw [sortNames, Dict.sortNames, ih, hi]

end Pangaea.Proto
