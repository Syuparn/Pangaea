/- The statement loop of C15 against the declarative reference. `specFrom` is the reference
   seen from inside the loop, with the loop's three variables; each part of the reference has an
   equation for one more statement in front, and `specFrom_cons` puts them together in the shape of
   the loop. -/
import Pangaea.Eval.Stmts
namespace Pangaea.StmtsLemmas
open Pangaea.Stmts

variable {S σ V D : Type}

theorem exitOf_cons (r : SVal V D × σ) (rs : List (SVal V D × σ)) :
    exitOf (r :: rs) = if isExit r.1 then some r else exitOf rs := by
  unfold exitOf
  rw [List.find?_cons]
  cases isExit r.1 <;> rfl

theorem reachedDefers_cons (r : SVal V D × σ) (rs : List (SVal V D × σ)) :
    reachedDefers (r :: rs) = if isExit r.1 then [] else (deferOf r).toList ++ reachedDefers rs := by
  unfold reachedDefers completed
  rw [List.takeWhile_cons]
  cases isExit r.1
  · rw [Bool.not_false, if_pos rfl, List.filterMap_cons]
    cases deferOf r <;> rfl
  · rfl

theorem lastVal_cons (nil init : V) (r : SVal V D × σ) (rs : List (SVal V D × σ)) :
    lastVal nil init (r :: rs) = lastVal nil (lastVal nil init [r]) rs := by
  cases rs with
  | nil => rfl
  | cons r' rs' =>
    unfold lastVal
    rw [List.getLast?_cons_cons]
    cases h : (r' :: rs').getLast? with
    | none => exact absurd h (by simp)
    | some x => rcases x with ⟨x, _⟩; cases x <;> rfl

theorem getLast_state_cons (s : σ) (r : SVal V D × σ) (rs : List (SVal V D × σ)) :
    (((r :: rs).getLast?.map (·.2)).getD s) = ((rs.getLast?.map (·.2)).getD r.2) := by
  cases rs with
  | nil => rfl
  | cons r' rs' =>
    rw [List.getLast?_cons_cons]
    cases h : (r' :: rs').getLast? with
    | none => exact absurd h (by simp)
    | some x => rfl

/-- value of a fallen-off body given the loop's current `val`/`yielded` -/
def accValue (nil val : V) (yielded : Option V) (rs : List (SVal V D × σ)) : V :=
  match yielded with
  | some y => y
  | none =>
    match rs.findSome? yieldOf with
    | some y => y
    | none => lastVal nil val rs

theorem accValue_cons (nil val : V) (yielded : Option V) (r : SVal V D × σ) (rs : List (SVal V D × σ)) :
    accValue nil val yielded (r :: rs) = accValue nil (lastVal nil val [r]) (yielded.or (yieldOf r)) rs := by
  cases yielded with
  | some y => rfl
  | none =>
    unfold accValue
    rw [List.findSome?_cons, lastVal_cons]
    cases yieldOf r <;> rfl

/-- `specBody` is the case `val = nil`, nothing yielded, no defers yet -/
def specFrom (ev : S → σ → SVal V D × σ) (nil : V) (stmts : List S) (s : σ) (val : V) (yielded : Option V)
    (ds : List D) : Out V × List D × σ :=
  let rs := scan ev stmts s
  match exitOf rs with
  | some (x, s') => (exitOut nil x, ds ++ reachedDefers rs, s')
  | none => (.val (accValue nil val yielded rs), ds ++ reachedDefers rs, ((rs.getLast?.map (·.2)).getD s))

theorem specFrom_cons (ev : S → σ → SVal V D × σ) (nil : V) (st : S) (rest : List S) (s : σ) (val : V)
    (yielded : Option V) (ds : List D) :
    specFrom ev nil (st :: rest) s val yielded ds =
      if isExit (ev st s).1 then (exitOut nil (ev st s).1, ds, (ev st s).2)
      else specFrom ev nil rest (ev st s).2 (lastVal nil val [ev st s]) (yielded.or (yieldOf (ev st s)))
        (ds ++ (deferOf (ev st s)).toList) := by
  have hs : scan ev (st :: rest) s = ev st s :: scan ev rest (ev st s).2 := rfl
  unfold specFrom
  dsimp only
  rw [hs, exitOf_cons, reachedDefers_cons, getLast_state_cons, accValue_cons]
  cases isExit (ev st s).1
  · simp only [Bool.false_eq_true, if_false, List.append_assoc]
  · simp only [if_true, List.append_nil]

theorem evalLoop_spec (ev : S → σ → SVal V D × σ) (nil : V) (stmts : List S) :
    ∀ (s : σ) (val : V) (yielded : Option V) (ds : List D),
      evalLoop ev nil stmts s val yielded ds = specFrom ev nil stmts s val yielded ds := by
  induction stmts with
  | nil =>
    intro s val yielded ds
    cases yielded <;> exact congrArg (fun l => (_, l, s)) (List.append_nil ds).symm
  | cons st rest ih =>
    intro s val yielded ds
    rw [specFrom_cons, evalLoop]
    rcases ev st s with ⟨x, s'⟩
    cases x with
    | err e | ret v | yldErr e => rfl
    | val v =>
      show evalLoop ev nil rest s' v yielded ds = specFrom ev nil rest s' v (yielded.or none) (ds ++ [])
      rw [ih, Option.or_none, List.append_nil]
    | dfr d =>
      show evalLoop ev nil rest s' nil yielded (ds ++ [d]) =
        specFrom ev nil rest s' nil (yielded.or none) (ds ++ [d])
      rw [ih, Option.or_none]
    | yld y =>
      show evalLoop ev nil rest s' y _ ds = specFrom ev nil rest s' y (yielded.or (some y)) (ds ++ [])
      rw [ih, List.append_nil]
      cases yielded <;> rfl

end Pangaea.StmtsLemmas
