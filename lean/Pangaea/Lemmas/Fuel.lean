/- Fuel monotonicity of the Core evaluator: once an evaluation ends without running out of fuel, any larger fuel
   gives exactly the same result and state. (So discarding out-of-fuel cases never hides a different answer, and the
   per-fuel theorems compose.) An induction over `Sim` (Lemmas/Sim.lean). -/
import Pangaea.Lemmas.Sim
namespace Pangaea.Core

def R.notFuel {α : Type} : R α → Prop
  | .fuel => False
  | _ => True

/-- `m'` answers everything `m` answers without running out of fuel, identically -/
def Le {α : Type} (m m' : M α) : Prop := ∀ s r s', m s = (r, s') → r.notFuel → m' s = (r, s')

theorem Le.refl {α : Type} (m : M α) : Le m m := fun _ _ _ h _ => h

theorem Le.trans {α : Type} {a b c : M α} (h1 : Le a b) (h2 : Le b c) : Le a c :=
  fun s r s' h hr => h2 s r s' (h1 s r s' h hr) hr

theorem Le.of_fuel {α : Type} (m' : M α) : Le (outOfFuel : M α) m' := by
  intro s r s' h hr
  cases h
  exact hr.elim

/-- continuation on the raw result pair: `k` passes an out-of-fuel result on, and `k'` extends `k` elsewhere -/
theorem Le.cont {α β : Type} {m m' : M α} (k k' : R α × St → R β × St) (hm : Le m m')
    (hfuel : ∀ s1, (k (.fuel, s1)).1 = .fuel)
    (hk : ∀ p r s', p.1.notFuel → k p = (r, s') → r.notFuel → k' p = (r, s')) :
    Le (fun s => k (m s)) (fun s => k' (m' s)) := by
  intro s r s' h hr
  rcases hms : m s with ⟨rm, s1⟩
  simp only [hms] at h
  by_cases hf : rm.notFuel
  · simp only [hm s _ _ hms hf]
    exact hk _ r s' hf h hr
  · cases rm with
    | fuel =>
      have := hfuel s1
      rw [h] at this
      simp at this; subst this
      exact hr.elim
    | _ => exact absurd trivial hf

theorem Le.handle {α β : Type} {m m' : M α} {f f' : α → M β} {g g' : String → String → M β}
    (hm : Le m m') (hf : ∀ a, Le (f a) (f' a)) (hg : ∀ k msg, Le (g k msg) (g' k msg)) :
    Le (handleM m f g) (handleM m' f' g') := by
  intro s r s' h hr
  unfold handleM at h ⊢
  rcases hms : m s with ⟨rm, s1⟩
  rw [hms] at h
  cases rm with
  | ok a => rw [hm s _ _ hms trivial]; exact hf a s1 r s' h hr
  | err k msg => rw [hm s _ _ hms trivial]; exact hg k msg s1 r s' h hr
  | fuel => cases h; exact hr.elim
  | unsup w => rw [hm s _ _ hms trivial]; exact h

theorem Le.bind {α β : Type} {m m' : M α} {f f' : α → M β} (hm : Le m m') (hf : ∀ a, Le (f a) (f' a)) :
    Le (m >>== f) (m' >>== f') :=
  Le.handle hm hf (fun _ _ => Le.refl _)

theorem Sim.le {α : Type} {c : Option Nat} {m m' : M α} : ∀ {n : Nat}, Sim n c m m' → Le m m'
  | n + 1, h => (sim_succ h).le
  | 0, h => by
    induction h with
    | enterCall _ _ _ _ _ _ _ ih => exact Le.bind (Le.refl _) ih
    | iterBody _ _ _ _ _ ih => exact Le.bind (Le.refl _) fun it => Le.bind (Le.refl _) fun _ => ih it
    | bind _ _ ih1 ih2 => exact Le.bind ih1 ih2
    | handle _ _ _ ih1 ih2 ih3 => exact Le.handle ih1 ih2 ih3
    -- a state primitive is related to itself; a call with fuel 0 is `outOfFuel`, by computation
    | _ => first | exact Le.refl _ | with_unfolding_all exact Le.of_fuel _

structure AllLe (fuel : Nat) : Prop where
  evalE : ∀ e env, Le (evalE fuel e env) (evalE (fuel + 1) e env)
  evalOpt : ∀ e env, Le (evalOpt fuel e env) (evalOpt (fuel + 1) e env)
  evalRecv : ∀ e env, Le (evalRecv fuel e env) (evalRecv (fuel + 1) e env)
  evalElems : ∀ es env, Le (evalElems fuel es env) (evalElems (fuel + 1) es env)
  evalArgs : ∀ es env acc kw, Le (evalArgs fuel es env acc kw) (evalArgs (fuel + 1) es env acc kw)
  evalKws : ∀ ks env acc, Le (evalKws fuel ks env acc) (evalKws (fuel + 1) ks env acc)
  evalPairs : ∀ ps env acc, Le (evalPairs fuel ps env acc) (evalPairs (fuel + 1) ps env acc)
  evalEmbedded : ∀ es env acc, Le (evalEmbedded fuel es env acc) (evalEmbedded (fuel + 1) es env acc)
  evalPieces : ∀ ps env acc, Le (evalPieces fuel ps env acc) (evalPieces (fuel + 1) ps env acc)
  evalStmts : ∀ ss env, Le (evalStmts fuel ss env) (evalStmts (fuel + 1) ss env)
  stmtLoop : ∀ ss env v y d, Le (stmtLoop fuel ss env v y d) (stmtLoop (fuel + 1) ss env v y d)
  runDefers : ∀ ds env, Le (runDefers fuel ds env) (runDefers (fuel + 1) ds env)
  evalStmt : ∀ st env, Le (evalStmt fuel st env) (evalStmt (fuel + 1) st env)
  callVal : ∀ f args kw, Le (callVal fuel f args kw) (callVal (fuel + 1) f args kw)
  callProp : ∀ r n args kw env, Le (callProp fuel r n args kw env) (callProp (fuel + 1) r n args kw env)
  callPropQuiet : ∀ r n args env, Le (callPropQuiet fuel r n args env) (callPropQuiet (fuel + 1) r n args env)
  builtinCall : ∀ n r args kw env, Le (builtinCall fuel n r args kw env) (builtinCall (fuel + 1) n r args kw env)
  iterNext : ∀ id, Le (iterNext fuel id) (iterNext (fuel + 1) id)
  propAdd : ∀ a r n args kw env, Le (propAdd fuel a r n args kw env) (propAdd (fuel + 1) a r n args kw env)
  srcOf : ∀ v, Le (srcOf fuel v) (srcOf (fuel + 1) v)
  nextElem : ∀ src, Le (nextElem fuel src) (nextElem (fuel + 1) src)
  propChain : ∀ m a r ca n args kw env, Le (propChain fuel m a r ca n args kw env) (propChain (fuel + 1) m a r ca n args kw env)
  propListLoop : ∀ a src n args kw env acc, Le (propListLoop fuel a src n args kw env acc) (propListLoop (fuel + 1) a src n args kw env acc)
  propReduceLoop : ∀ a src acc n args kw env, Le (propReduceLoop fuel a src acc n args kw env) (propReduceLoop (fuel + 1) a src acc n args kw env)
  litCallOne : ∀ f r env, Le (litCallOne fuel f r env) (litCallOne (fuel + 1) f r env)
  litAdd : ∀ a f r env, Le (litAdd fuel a f r env) (litAdd (fuel + 1) a f r env)
  litChain : ∀ m a r ca f env, Le (litChain fuel m a r ca f env) (litChain (fuel + 1) m a r ca f env)
  litListLoop : ∀ a src f env acc, Le (litListLoop fuel a src f env acc) (litListLoop (fuel + 1) a src f env acc)
  litReduceLoop : ∀ a src acc f env, Le (litReduceLoop fuel a src acc f env) (litReduceLoop (fuel + 1) a src acc f env)

theorem allLe (fuel : Nat) : AllLe fuel := by
  -- the functions that take no scope have their constructor of `Sim` at every `c`, which has to be named for them
  constructor <;> intros <;> first
    | exact Sim.le (n := fuel) (c := none) (by constructor)
    | exact Sim.le (n := fuel) (by constructor)

def Mono {α : Type} (f : Nat → M α) : Prop := ∀ n, Le (f n) (f (n + 1))

theorem Mono.le {α : Type} {f : Nat → M α} (hf : Mono f) {n m : Nat} (h : n ≤ m) : Le (f n) (f m) := by
  induction h with
  | refl => exact Le.refl _
  | step _ ih => exact ih.trans (hf _)

theorem mono_evalE (e : Expr) (env : Nat) : Mono (evalE · e env) := fun n => (allLe n).evalE e env
theorem mono_evalElems (es : List Expr) (env : Nat) : Mono (evalElems · es env) := fun n => (allLe n).evalElems es env
theorem mono_evalArgs (es : List Expr) (env : Nat) (acc : List Val) (kw : List (String × Val)) : Mono (evalArgs · es env acc kw) :=
  fun n => (allLe n).evalArgs es env acc kw
theorem mono_evalStmt (st : Stmt) (env : Nat) : Mono (evalStmt · st env) := fun n => (allLe n).evalStmt st env
theorem mono_stmtLoop (ss : List Stmt) (env : Nat) (v : Val) (y : Option Val) (d : List Expr) : Mono (stmtLoop · ss env v y d) :=
  fun n => (allLe n).stmtLoop ss env v y d
theorem mono_callPropQuiet (r : Val) (nm : String) (args : List Val) (env : Nat) : Mono (callPropQuiet · r nm args env) :=
  fun n => (allLe n).callPropQuiet r nm args env
theorem mono_propAdd (a : Add) (r : Val) (nm : String) (args : List Val) (kw : List (String × Val)) (env : Nat) :
    Mono (propAdd · a r nm args kw env) :=
  fun n => (allLe n).propAdd a r nm args kw env
theorem mono_nextElem (src : Src) : Mono (nextElem · src) := fun n => (allLe n).nextElem src
theorem mono_evalStmts (ss : List Stmt) (env : Nat) : Mono (evalStmts · ss env) := fun n => (allLe n).evalStmts ss env
theorem mono_callVal (f : Val) (args : List Val) (kw : List (String × Val)) : Mono (callVal · f args kw) :=
  fun n => (allLe n).callVal f args kw

/-! ### judgments without fuel

`∃ fuel, f fuel s = (r, s')` is how the specifications say "`f` ends in `(r, s')`". Such facts do not compose as they
stand (two premises come with two different amounts of fuel); `Ev` does, and for a function that more fuel only extends
the two say the same. -/

def Ev {α : Type} (f : Nat → M α) (s : St) (r : R α) (s' : St) : Prop := ∃ N, ∀ n, N ≤ n → f n s = (r, s')

theorem Mono.ev {α : Type} {f : Nat → M α} (hf : Mono f) {s s' : St} {r : R α} (h : ∃ n, f n s = (r, s'))
    (hr : r.notFuel := by trivial) : Ev f s r s' :=
  h.elim fun n hn => ⟨n, fun _ hm => hf.le hm s r s' hn hr⟩

namespace Ev
variable {α β : Type} {s s1 s2 : St}

theorem exists_fuel {f : Nat → M α} {r : R α} (h : Ev f s r s1) : ∃ n, f n s = (r, s1) :=
  h.elim fun N hN => ⟨N, hN N (Nat.le_refl N)⟩

/-- `f (n + 1)` is what the evaluator's equations speak of -/
theorem of_succ {f : Nat → M α} {r : R α} (h : Ev (fun n => f (n + 1)) s r s1) : Ev f s r s1 :=
  h.elim fun N hN => ⟨N + 1, fun n hn => by
    obtain ⟨k, rfl⟩ : ∃ k, n = k + 1 := ⟨n - 1, by omega⟩
    exact hN k (by omega)⟩

theorem both {f₁ : Nat → M α} {f₂ : Nat → M β} {r₁ : R α} {r₂ : R β} {s' : St} (h₁ : Ev f₁ s r₁ s1) (h₂ : Ev f₂ s' r₂ s2) :
    ∃ N, ∀ n, N ≤ n → f₁ n s = (r₁, s1) ∧ f₂ n s' = (r₂, s2) :=
  h₁.elim fun N hN => h₂.elim fun K hK => ⟨max N K, fun n hn =>
    ⟨hN n (Nat.le_trans (Nat.le_max_left N K) hn), hK n (Nat.le_trans (Nat.le_max_right N K) hn)⟩⟩

/-- lifts a per-fuel theorem "child with fuel `n` ⟹ parent with fuel `n + 1`" (those of Theorems/C07) -/
theorem step {f : Nat → M α} {g : Nat → M β} {r : R α} {r' : R β} {s0 s0' : St} (h : Ev f s r s1)
    (hstep : ∀ n, f n s = (r, s1) → g (n + 1) s0 = (r', s0')) : Ev g s0 r' s0' :=
  of_succ (h.elim fun N hN => ⟨N, fun n hn => hstep n (hN n hn)⟩)

theorem step₂ {γ : Type} {f₁ : Nat → M α} {f₂ : Nat → M β} {g : Nat → M γ} {r₁ : R α} {r₂ : R β} {r' : R γ} {s' s0 s0' : St}
    (h₁ : Ev f₁ s r₁ s1) (h₂ : Ev f₂ s' r₂ s2) (hstep : ∀ n, f₁ n s = (r₁, s1) → f₂ n s' = (r₂, s2) → g (n + 1) s0 = (r', s0')) :
    Ev g s0 r' s0' :=
  of_succ ((h₁.both h₂).elim fun N hN => ⟨N, fun n hn => hstep n (hN n hn).1 (hN n hn).2⟩)

theorem unique {f : Nat → M α} {r r' : R α} (h : Ev f s r s1) (h' : Ev f s r' s2) : r = r' ∧ s1 = s2 :=
  (h.both h').elim fun N hN =>
    have := (hN N (Nat.le_refl N)).1.symm.trans (hN N (Nat.le_refl N)).2
    ⟨congrArg Prod.fst this, congrArg Prod.snd this⟩

theorem of_forall {f : Nat → M α} {r : R α} (h : ∀ n, f n s = (r, s1)) : Ev f s r s1 := ⟨0, fun n _ => h n⟩

theorem pure (a : α) (s : St) : Ev (fun _ => pureM a) s (.ok a) s := of_forall fun _ => rfl
theorem throw (k msg : String) (s : St) : Ev (fun _ => (throwM k msg : M α)) s (.err k msg) s := of_forall fun _ => rfl

theorem handle_ok {f : Nat → M α} {g : Nat → α → M β} {h : Nat → String → String → M β} {a : α} {r : R β}
    (h1 : Ev f s (.ok a) s1) (h2 : Ev (fun n => g n a) s1 r s2) : Ev (fun n => handleM (f n) (g n) (h n)) s r s2 :=
  (h1.both h2).elim fun N hN => ⟨N, fun n hn => by simp only [handleM, (hN n hn).1, (hN n hn).2]⟩

theorem handle_err {f : Nat → M α} {g : Nat → α → M β} {h : Nat → String → String → M β} {k msg : String} {r : R β}
    (h1 : Ev f s (.err k msg) s1) (h2 : Ev (fun n => h n k msg) s1 r s2) : Ev (fun n => handleM (f n) (g n) (h n)) s r s2 :=
  (h1.both h2).elim fun N hN => ⟨N, fun n hn => by simp only [handleM, (hN n hn).1, (hN n hn).2]⟩

theorem bind {f : Nat → M α} {g : Nat → α → M β} {a : α} {r : R β}
    (h1 : Ev f s (.ok a) s1) (h2 : Ev (fun n => g n a) s1 r s2) : Ev (fun n => f n >>== g n) s r s2 :=
  handle_ok h1 h2

theorem bind_err {f : Nat → M α} {g : Nat → α → M β} {k msg : String}
    (h1 : Ev f s (.err k msg) s1) : Ev (fun n => f n >>== g n) s (.err k msg) s1 :=
  handle_err h1 (throw k msg s1)

end Ev

end Pangaea.Core
