/- C02, infix fragment, arbitrary precedence function: right insertion keeps canonical form and
   is inverted by flattening; one step of the shift-reduce machine is one right insertion. Both rest on
   the two equations of `insertRight` (descend right past a looser root, become the root otherwise) and
   on `plug`: the stack is the right spine of the tree built so far. -/
import Pangaea.Syntax.Prec
namespace Pangaea.Prec
open Tree

variable {Op Atom : Type} (prec : Op → Nat)

theorem rootGE_of_rootGT {m : Nat} {t : Tree Op Atom} (h : rootGT prec m t) : rootGE prec m t := by
  cases t with
  | atom _ => trivial
  | bin _ _ _ => exact Nat.le_of_lt h

theorem rootGT_of_lt {m n : Nat} {t : Tree Op Atom} (hmn : m < n) (h : rootGE prec n t) :
    rootGT prec m t := by
  cases t with
  | atom _ => trivial
  | bin _ _ _ => exact Nat.lt_of_lt_of_le hmn h

theorem insertRight_of_lt {p o : Op} (l r : Tree Op Atom) (a : Atom) (h : prec p < prec o) :
    insertRight prec (bin p l r) o a = bin p l (insertRight prec r o a) :=
  if_pos h

theorem insertRight_of_rootGE {t : Tree Op Atom} {o : Op} (a : Atom) (h : rootGE prec (prec o) t) :
    insertRight prec t o a = bin o t (atom a) := by
  cases t with
  | atom _ => rfl
  | bin _ _ _ => exact if_neg (Nat.not_lt.mpr h)

theorem first_insertRight (t : Tree Op Atom) (o : Op) (a : Atom) :
    first (insertRight prec t o a) = first t := by
  cases t with
  | atom _ => rfl
  | bin _ _ _ => unfold insertRight; split <;> rfl

theorem tail_insertRight (t : Tree Op Atom) (o : Op) (a : Atom) :
    tail (insertRight prec t o a) = tail t ++ [(o, a)] := by
  induction t with
  | atom _ => rfl
  | bin p l r _ ihr =>
    unfold insertRight; split
    · simp [tail, ihr, first_insertRight]
    · rfl

theorem rootGE_insertRight (t : Tree Op Atom) (o : Op) (a : Atom) (m : Nat)
    (ht : rootGE prec m t) (ho : m ≤ prec o) : rootGE prec m (insertRight prec t o a) := by
  cases t with
  | atom _ => exact ho
  | bin _ _ _ => unfold insertRight; split <;> assumption

theorem rootGT_insertRight (t : Tree Op Atom) (o : Op) (a : Atom) (m : Nat)
    (ht : rootGT prec m t) (ho : m < prec o) : rootGT prec m (insertRight prec t o a) := by
  cases t with
  | atom _ => exact ho
  | bin _ _ _ => unfold insertRight; split <;> assumption

theorem canonical_insertRight (t : Tree Op Atom) (o : Op) (a : Atom) (h : canonical prec t) :
    canonical prec (insertRight prec t o a) := by
  induction t with
  | atom _ => exact ⟨trivial, trivial, trivial, trivial⟩
  | bin p l r _ ihr =>
    rcases Nat.lt_or_ge (prec p) (prec o) with hlt | hge
    · rw [insertRight_of_lt prec l r a hlt]
      exact ⟨h.1, ihr h.2.1, h.2.2.1, rootGT_insertRight prec r o a _ h.2.2.2 hlt⟩
    · rw [insertRight_of_rootGE prec a (t := bin p l r) hge]
      exact ⟨h, trivial, hge, trivial⟩

theorem foldl_insertRight_sound (ws : List (Op × Atom)) (t : Tree Op Atom) (ht : canonical prec t) :
    canonical prec (ws.foldl (fun t w => insertRight prec t w.1 w.2) t) ∧
    first (ws.foldl (fun t w => insertRight prec t w.1 w.2) t) = first t ∧
    tail (ws.foldl (fun t w => insertRight prec t w.1 w.2) t) = tail t ++ ws := by
  induction ws generalizing t with
  | nil => simp [ht]
  | cons w ws ih =>
    obtain ⟨hc, hf, htl⟩ := ih _ (canonical_insertRight prec t w.1 w.2 ht)
    refine ⟨hc, hf.trans (first_insertRight prec t w.1 w.2), htl.trans ?_⟩
    rw [tail_insertRight, List.append_assoc]; rfl

theorem build_sound (a0 : Atom) (ws : List (Op × Atom)) :
    canonical prec (build prec a0 ws) ∧ first (build prec a0 ws) = a0 ∧ tail (build prec a0 ws) = ws :=
  foldl_insertRight_sound prec ws (atom a0) trivial

theorem insertRight_plug (st : List (Tree Op Atom × Op)) (c : Tree Op Atom) (o : Op) (a : Atom)
    (h : ∀ x ∈ st, prec x.2 < prec o) :
    insertRight prec (plug st c) o a = plug st (insertRight prec c o a) := by
  induction st generalizing c with
  | nil => rfl
  | cons x st ih =>
    rw [plug, ih _ fun y hy => h y (List.mem_cons_of_mem _ hy),
      insertRight_of_lt prec _ _ _ (h x List.mem_cons_self)]
    rfl

/-- `build_complete` inside a spine, which the induction needs: for the right subtree `(l, o)` joins
    the spine -/
theorem foldl_insertRight_tail (t : Tree Op Atom) (hc : canonical prec t) (st : List (Tree Op Atom × Op))
    (hst : ∀ x ∈ st, rootGT prec (prec x.2) t) :
    (tail t).foldl (fun t w => insertRight prec t w.1 w.2) (plug st (atom (first t))) = plug st t := by
  induction t generalizing st with
  | atom _ => rfl
  | bin o l r ihl ihr =>
    obtain ⟨hl, hr, hge, hgt⟩ := hc
    simp only [tail, first, List.foldl_append, List.foldl_cons]
    rw [ihl hl st fun x hx => rootGT_of_lt prec (hst x hx) hge, insertRight_plug prec st l o _ hst,
      insertRight_of_rootGE prec _ hge]
    refine ihr hr ((l, o) :: st) fun x hx => ?_
    rcases List.mem_cons.mp hx with rfl | hx
    · exact hgt
    · exact rootGT_of_lt prec (hst x hx) (rootGE_of_rootGT prec hgt)

theorem build_complete (t : Tree Op Atom) (hc : canonical prec t) :
    build prec (first t) (tail t) = t :=
  foldl_insertRight_tail prec t hc [] nofun

theorem incr_cons {l : Tree Op Atom} {p : Op} {st : List (Tree Op Atom × Op)} :
    incr prec ((l, p) :: st) ↔ (∀ y ∈ st, prec y.2 < prec p) ∧ incr prec st := by
  induction st generalizing l p with
  | nil => simp [incr]
  | cons y st ih =>
    obtain ⟨m, q⟩ := y
    refine ⟨fun h => ⟨fun y hy => ?_, h.2⟩, fun h => ⟨h.1 _ List.mem_cons_self, h.2⟩⟩
    rcases List.mem_cons.mp hy with rfl | hy
    · exact h.1
    · exact Nat.lt_trans ((ih.mp h.2).1 y hy) h.1

/-- Reducing stops at a subtree that `o` does not bind tighter than, above stack entries that `o` does
    bind tighter than (`incr`): where `insertRight` stops descending. -/
theorem step_eq (st : List (Tree Op Atom × Op)) (c : Tree Op Atom) (o : Op) (a : Atom)
    (hinc : incr prec st) (hc : rootGE prec (prec o) c) :
    let r := reduceWhile prec st c o
    plug ((r.2, o) :: r.1) (atom a) = insertRight prec (plug st c) o a ∧
      incr prec ((r.2, o) :: r.1) := by
  induction st generalizing c with
  | nil => exact ⟨(insertRight_of_rootGE prec a hc).symm, trivial⟩
  | cons x st ih =>
    obtain ⟨l, p⟩ := x
    by_cases hlt : prec p < prec o
    · simp only [reduceWhile, shifts, hlt, decide_true, if_true]
      have hall : ∀ y ∈ (l, p) :: st, prec y.2 < prec o := fun y hy => by
        rcases List.mem_cons.mp hy with rfl | hy
        · exact hlt
        · exact Nat.lt_trans (((incr_cons prec).mp hinc).1 y hy) hlt
      refine ⟨?_, hlt, hinc⟩
      rw [insertRight_plug prec _ c o a hall, insertRight_of_rootGE prec a hc]; rfl
    · simp only [reduceWhile, shifts, hlt, decide_false, if_false, Bool.false_eq_true]
      exact ih (bin p l c) ((incr_cons prec).mp hinc).2 (Nat.not_lt.mp hlt)

theorem sr_eq_foldl (st : List (Tree Op Atom × Op)) (x : Atom) (ws : List (Op × Atom)) (hinc : incr prec st) :
    sr prec st (atom x) ws = ws.foldl (fun t w => insertRight prec t w.1 w.2) (plug st (atom x)) := by
  induction ws generalizing st x with
  | nil => rfl
  | cons w ws ih =>
    obtain ⟨o, a⟩ := w
    have h := step_eq prec st (atom x) o a hinc trivial
    simp only [sr, List.foldl_cons]
    rw [ih _ a h.2, h.1]

theorem sr_eq_build (a0 : Atom) (ws : List (Op × Atom)) : sr prec [] (atom a0) ws = build prec a0 ws :=
  sr_eq_foldl prec [] a0 ws trivial

end Pangaea.Prec
