/- A generic invariance principle for the Core evaluator: any reflexive, transitive relation on interpreter states
   that every state primitive respects is respected by every function of the evaluator (an induction over `Sim`,
   Lemmas/Sim.lean). Instances: output only grows, stdin is only consumed (Theorems/C08Out.lean), iterator identities
   and their code persist (Theorems/C14Store.lean). -/
import Pangaea.Lemmas.Sim
namespace Pangaea.Core

/-- what the relation has to satisfy: a preorder respected by the state primitives that change the state -/
structure PrimStable (R : St → St → Prop) : Prop where
  refl : ∀ s, R s s
  trans : ∀ {a b c}, R a b → R b c → R a c
  setVar : ∀ env x v s, R s (setVar env x v s).2
  allocFrame : ∀ fr s, R s (allocFrame fr s).2
  copyFrame : ∀ env s, R s (copyFrame env s).2
  enterCall : ∀ fenv params kwd args kwargs s, R s (enterCall fenv params kwd args kwargs s).2
  printLine : ∀ l s, R s (printLine l s).2
  readLine : ∀ s, R s (readLine s).2
  newIter : ∀ fr params kwd body s, R s (newIter fr params kwd body s).2
  copyIter : ∀ it s, R s (copyIter it s).2
  repointIter : ∀ id fr s, R s (repointIter id fr s).2

def StableM {α : Type} (R : St → St → Prop) (m : M α) : Prop := ∀ s, R s (m s).2

section
variable {R : St → St → Prop} (hR : PrimStable R)
include hR

theorem StableM.handle {α β : Type} {m : M α} {f : α → M β} {g : String → String → M β}
    (hm : StableM R m) (hf : ∀ a, StableM R (f a)) (hg : ∀ k msg, StableM R (g k msg)) : StableM R (handleM m f g) := by
  intro s
  unfold handleM
  have h1 := hm s
  rcases hms : m s with ⟨r, s1⟩
  rw [hms] at h1
  cases r with
  | ok a => exact hR.trans h1 (hf a s1)
  | err k msg => exact hR.trans h1 (hg k msg s1)
  | _ => exact h1

theorem StableM.bind {α β : Type} {m : M α} {f : α → M β}
    (hm : StableM R m) (hf : ∀ a, StableM R (f a)) : StableM R (m >>== f) :=
  StableM.handle hR hm hf (fun _ _ s => hR.refl s)

theorem StableM.getIter (id : Nat) : StableM R (getIter id) := by
  intro s; unfold Core.getIter; cases s.iters[id]? <;> exact hR.refl s

theorem Sim.stable {α : Type} {c : Option Nat} {m m' : M α} : ∀ {n : Nat}, Sim n c m m' → StableM R m
  | n + 1, h => (sim_succ h).stable
  | 0, h => by
    induction h with
    | enterCall _ fenv ps kwd args kw _ ih => exact StableM.bind hR (hR.enterCall fenv ps kwd args kw) ih
    | iterBody _ id x v _ ih =>
      exact StableM.bind hR (StableM.getIter hR id) fun it => StableM.bind hR (hR.setVar it.env x v) fun _ => ih it
    | bind _ _ ih1 ih2 => exact StableM.bind hR ih1 ih2
    | handle _ _ _ ih1 ih2 ih3 => exact StableM.handle hR ih1 ih2 ih3
    | setVar env x v => exact hR.setVar env x v
    | allocFrame _ fr => exact hR.allocFrame fr
    | printLine _ l => exact hR.printLine l
    | readLine => exact hR.readLine
    | newIter _ fr ps kwd body => exact hR.newIter fr ps kwd body
    | copyIter _ it => exact hR.copyIter it
    | repointIter _ id fr => exact hR.repointIter id fr
    | getIter _ id => exact StableM.getIter hR id
    -- what is left returns its state: `pureM`, `throwM`, …, and a call with fuel 0, which is `outOfFuel`
    | _ => with_unfolding_all exact fun s => hR.refl s
end

structure AllStable (R : St → St → Prop) (fuel : Nat) : Prop where
  evalE : ∀ e env, StableM R (evalE fuel e env)
  evalOpt : ∀ e env, StableM R (evalOpt fuel e env)
  evalRecv : ∀ e env, StableM R (evalRecv fuel e env)
  evalElems : ∀ es env, StableM R (evalElems fuel es env)
  evalArgs : ∀ es env acc kw, StableM R (evalArgs fuel es env acc kw)
  evalKws : ∀ ks env acc, StableM R (evalKws fuel ks env acc)
  evalPairs : ∀ ps env acc, StableM R (evalPairs fuel ps env acc)
  evalEmbedded : ∀ es env acc, StableM R (evalEmbedded fuel es env acc)
  evalPieces : ∀ ps env acc, StableM R (evalPieces fuel ps env acc)
  evalStmts : ∀ ss env, StableM R (evalStmts fuel ss env)
  stmtLoop : ∀ ss env v y d, StableM R (stmtLoop fuel ss env v y d)
  runDefers : ∀ ds env, StableM R (runDefers fuel ds env)
  evalStmt : ∀ st env, StableM R (evalStmt fuel st env)
  callVal : ∀ f args kw, StableM R (callVal fuel f args kw)
  callProp : ∀ r n args kw env, StableM R (callProp fuel r n args kw env)
  callPropQuiet : ∀ r n args env, StableM R (callPropQuiet fuel r n args env)
  builtinCall : ∀ n r args kw env, StableM R (builtinCall fuel n r args kw env)
  iterNext : ∀ id, StableM R (iterNext fuel id)
  propAdd : ∀ a r n args kw env, StableM R (propAdd fuel a r n args kw env)
  srcOf : ∀ v, StableM R (srcOf fuel v)
  nextElem : ∀ src, StableM R (nextElem fuel src)
  propChain : ∀ m a r ca n args kw env, StableM R (propChain fuel m a r ca n args kw env)
  propListLoop : ∀ a src n args kw env acc, StableM R (propListLoop fuel a src n args kw env acc)
  propReduceLoop : ∀ a src acc n args kw env, StableM R (propReduceLoop fuel a src acc n args kw env)
  litCallOne : ∀ f r env, StableM R (litCallOne fuel f r env)
  litAdd : ∀ a f r env, StableM R (litAdd fuel a f r env)
  litChain : ∀ m a r ca f env, StableM R (litChain fuel m a r ca f env)
  litListLoop : ∀ a src f env acc, StableM R (litListLoop fuel a src f env acc)
  litReduceLoop : ∀ a src acc f env, StableM R (litReduceLoop fuel a src acc f env)

/-- **Invariance principle.** A preorder on states respected by the state primitives is respected by the whole evaluator. -/
theorem allStable {R : St → St → Prop} (hR : PrimStable R) : ∀ fuel, AllStable R fuel := fun fuel => by
  constructor <;> intros <;> first
    | exact Sim.stable hR (n := fuel) (c := none) (m' := _) (by constructor)
    | exact Sim.stable hR (n := fuel) (m' := _) (by constructor)

end Pangaea.Core
