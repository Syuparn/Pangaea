/- The seven loops of the two middleware stacks differ in how they are written, not in
   what they do: a list loop stops at the first failing result and collects the others (all, or those
   that are not nil), a reduce loop stops at the first failing step. `listLoop_spec` and
   `reduceLoop_spec` say once that any function with that recurrence computes the specification; for
   each loop the recurrence holds by unfolding. -/
import Pangaea.Eval.Chain
namespace Pangaea.ChainLemmas
open Pangaea.Chain

theorem lAdd_elemRule (a : Add) (f : LH) (r : Val) : lAdd a f r = elemRule a f r := by
  cases a
  case lonely => cases r <;> rfl
  all_goals rfl

theorem pAdd_elemRule (a : Add) (call : PH) (r : Val) (args : List Val) :
    pAdd a call r args = elemRule a (fun r => call r args) r := by
  rw [← lAdd_elemRule]; cases a <;> rfl

theorem elemRule_thoughtful_isErr (f : LH) {r : Val} (hr : r.isErr = false) :
    (elemRule .thoughtful f r).isErr = false := by
  show (if (f r).isErr || (f r).isNil then r else f r).isErr = false
  cases hx : (f r).isErr
  · cases (f r).isNil
    · exact hx
    · exact hr
  · exact hr

theorem firstErr_cons (x : Val) (xs : List Val) :
    firstErr (x :: xs) = if x.isErr then some x else firstErr xs := by
  simp only [firstErr, List.find?_cons]
  cases x.isErr <;> rfl

theorem firstErr_append_cons {pre post : List Val} {e : Val}
    (hpre : ∀ x ∈ pre, x.isErr = false) (he : e.isErr = true) :
    firstErr (pre ++ e :: post) = some e :=
  List.find?_eq_some_iff_append.2 ⟨he, pre, post, rfl, fun a ha => by rw [hpre a ha]; rfl⟩

theorem listLoop_spec {f : LH} {sq : Bool} {stop} {fin : List Val → Val} {L : List Val → List Val → Val}
    (hnil : ∀ acc, L [] acc = orStop stop (fin acc.reverse))
    (hcons : ∀ e es acc, L (e :: es) acc =
      if (f e).isErr then f e else if sq && (f e).isNil then L es acc else L es (f e :: acc))
    (es acc : List Val) :
    L es acc = orErr (firstErr (es.map f)) (orStop stop (fin (acc.reverse ++
      if sq then (es.map f).filter (fun x => !x.isNil) else es.map f))) := by
  induction es generalizing acc with
  | nil => cases sq <;> simp [hnil, firstErr, orErr]
  | cons e es ih =>
    rw [hcons, List.map_cons, firstErr_cons]
    by_cases h : (f e).isErr = true
    · simp only [h, if_true, orErr]
    · rw [if_neg h, if_neg h]
      cases sq
      · simp [ih]
      · cases hn : (f e).isNil <;> simp [ih, hn]

theorem lSquash_spec (f : LH) (stop : Option Val) (fin : List Val → Val) (es acc : List Val) :
    lSquash f stop fin es acc =
      orErr (firstErr (es.map f)) (orStop stop (fin (acc.reverse ++ (es.map f).filter (fun x => !x.isNil)))) :=
  listLoop_spec (sq := true) (fun _ => rfl) (fun _ _ _ => rfl) es acc

theorem lKeep_spec (f : LH) (stop : Option Val) (fin : List Val → Val) (es acc : List Val) :
    lKeep f stop fin es acc =
      orErr (firstErr (es.map f)) (orStop stop (fin (acc.reverse ++ es.map f))) :=
  listLoop_spec (sq := false) (fun _ => rfl) (fun _ _ _ => rfl) es acc

/-- `&$` is left out: with the accumulator as the receiver it would skip a nil accumulator, which the
    specification of a reduce step does not say -/
theorem specReduceStep_eq_elemRule {a : Add} (ha : a ≠ .lonely) (g : Val → Val → Val) {acc : Val}
    (hacc : acc.isErr = false) (e : Val) :
    specReduceStep a g acc e = elemRule a (fun r => g r e) acc := by
  unfold specReduceStep
  rw [hacc]
  cases a with
  | lonely => exact absurd rfl ha
  | vanilla | thoughtful | strict => rfl

theorem specReduce_err (a : Add) (g : Val → Val → Val) (stop : Option Val) (es : List Val) {x : Val}
    (hx : x.isErr = true) : specReduce a g ⟨es, stop⟩ x = x := by
  have : es.foldl (specReduceStep a g) x = x := by
    induction es with
    | nil => rfl
    | cons e es ih => simp only [List.foldl_cons, specReduceStep, hx, if_true]; exact ih
  simp only [specReduce, this, hx, if_true]

theorem reduceLoop_spec {a g stop} {L : List Val → Val → Val}
    (hnil : ∀ acc, L [] acc = orStop stop acc)
    (hcons : ∀ e es acc, acc.isErr = false → L (e :: es) acc =
      if (specReduceStep a g acc e).isErr then specReduceStep a g acc e
      else L es (specReduceStep a g acc e))
    (es : List Val) (acc : Val) (hacc : acc.isErr = false) :
    L es acc = specReduce a g ⟨es, stop⟩ acc := by
  induction es generalizing acc with
  | nil => simp [hnil, specReduce, hacc]
  | cons e es ih =>
    rw [hcons e es acc hacc]
    show _ = specReduce a g ⟨es, stop⟩ (specReduceStep a g acc e)
    by_cases hx : (specReduceStep a g acc e).isErr = true
    · rw [if_pos hx, specReduce_err a g stop es hx]
    · rw [if_neg hx, ih _ (by simpa using hx)]

theorem lReduce_spec {a g} {next : LH}
    (hstep : ∀ acc e, acc.isErr = false → specReduceStep a g acc e = next (.arr [acc, e]))
    (stop : Option Val) (es : List Val) (acc : Val) (hacc : acc.isErr = false) :
    lReduce next stop es acc = specReduce a g ⟨es, stop⟩ acc :=
  reduceLoop_spec (fun _ => rfl) (fun e es acc h => by rw [hstep acc e h]; rfl) es acc hacc

theorem pReduce_spec {a g} {next : PH} {args : List Val}
    (hstep : ∀ acc e, acc.isErr = false → specReduceStep a g acc e = next acc (e :: args))
    (stop : Option Val) (es : List Val) (acc : Val) (hacc : acc.isErr = false) :
    pReduce next args stop es acc = specReduce a g ⟨es, stop⟩ acc :=
  reduceLoop_spec (fun _ => rfl) (fun e es acc h => by rw [hstep acc e h]; rfl) es acc hacc

theorem lThoughtfulReduce_spec (f : LH) (stop : Option Val) (es : List Val) (acc : Val)
    (hacc : acc.isErr = false) :
    lThoughtfulReduce f stop es acc =
      specReduce .thoughtful (fun acc e => f (.arr [acc, e])) ⟨es, stop⟩ acc := by
  refine reduceLoop_spec (fun _ => rfl) (fun e es acc h => ?_) es acc hacc
  rw [specReduceStep_eq_elemRule (by decide) _ h, elemRule_thoughtful_isErr _ h]
  exact (apply_ite (lThoughtfulReduce f stop es) ..).symm

end Pangaea.ChainLemmas
