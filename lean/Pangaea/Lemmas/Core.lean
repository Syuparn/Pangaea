/- The Core evaluator's state monad: running a bind, and the evaluator's hand-written result matches as one
   combinator (`handleM`). -/
import Pangaea.Core.Eval
namespace Pangaea.Core

/-- `m`, then `f` on its value or `g` on its error; an exhausted budget and `unsupported` pass through.
    `m >>== f` is `handleM m f throwM`, and every place where the evaluator matches on a raw result
    (`evalStmts`, `stmtLoop`, the `~` chains, `nextElem`) is a `handleM` too: the equations below. -/
def handleM {α β : Type} (m : M α) (f : α → M β) (g : String → String → M β) : M β := fun s =>
  match m s with
  | (.ok a, s') => f a s'
  | (.err k msg, s') => g k msg s'
  | (.fuel, s') => (.fuel, s')
  | (.unsup w, s') => (.unsup w, s')

theorem handleM_ok {α β : Type} {m : M α} {f : α → M β} {g : String → String → M β} {s s' : St} {a : α}
    (h : m s = (.ok a, s')) : handleM m f g s = f a s' := by
  simp only [handleM, h]

theorem handleM_err {α β : Type} {m : M α} {f : α → M β} {g : String → String → M β} {s s' : St} {k msg : String}
    (h : m s = (.err k msg, s')) : handleM m f g s = g k msg s' := by
  simp only [handleM, h]

theorem bindM_err {α β : Type} (m : M α) (f : α → M β) (s s' : St) (k msg : String)
    (h : m s = (.err k msg, s')) : (m >>== f) s = (.err k msg, s') :=
  handleM_err h

theorem bindM_ok {α β : Type} (m : M α) (f : α → M β) (s s' : St) (a : α)
    (h : m s = (.ok a, s')) : (m >>== f) s = f a s' :=
  handleM_ok h

theorem bindM_fuel {α β : Type} (m : M α) (f : α → M β) (s s' : St)
    (h : m s = (.fuel, s')) : (m >>== f) s = (.fuel, s') := by
  simp [bindM, h]

theorem bindM_eq_ok {α β : Type} {m : M α} {f : α → M β} {s s' : St} {b : β} :
    (m >>== f) s = (.ok b, s') ↔ ∃ a s1, m s = (.ok a, s1) ∧ f a s1 = (.ok b, s') := by
  unfold bindM
  rcases m s with ⟨r, s1⟩
  cases r with
  | ok a => exact ⟨fun h => ⟨a, s1, rfl, h⟩, fun ⟨_, _, h1, h2⟩ => by cases h1; exact h2⟩
  | _ => exact ⟨nofun, fun ⟨_, _, h1, _⟩ => nomatch h1⟩

theorem getIter_some {s : St} {id : Nat} {it : IterSt} (hid : s.iters[id]? = some it) : getIter id s = (.ok it, s) := by
  rw [getIter, hid]

@[simp] theorem pureM_apply {α : Type} (a : α) (s : St) : pureM a s = (.ok a, s) := rfl
@[simp] theorem throwM_apply {α : Type} (k m : String) (s : St) : (throwM k m : M α) s = (.err k m, s) := rfl

theorem evalStmts_succ (fuel : Nat) (ss : List Stmt) (env : Nat) :
    evalStmts (fuel + 1) ss env =
      stmtLoop fuel ss env .nil none [] >>== fun p => runDefers fuel p.2 env >>== fun _ => pureM p.1 := by
  funext s; rw [evalStmts]; simp only [bindM]
  generalize stmtLoop fuel ss env .nil none [] s = res
  obtain ⟨r, s1⟩ := res
  cases r <;> rfl

/-- on an error the defers registered so far run first; an error of theirs replaces it -/
theorem stmtLoop_cons (fuel : Nat) (st : Stmt) (rest : List Stmt) (env : Nat) (val : Val) (y : Option Val) (ds : List Expr) :
    stmtLoop (fuel + 1) (st :: rest) env val y ds =
      handleM (evalStmt fuel st env)
        (fun sig => match sig with
          | .val v => stmtLoop fuel rest env v y ds
          | .ret v => pureM (v, ds)
          | .yld v => stmtLoop fuel rest env v (some (y.getD v)) ds
          | .dfr e => stmtLoop fuel rest env .nil y (ds ++ [e]))
        (fun k msg => runDefers fuel ds env >>== fun _ => throwM k msg) := by
  funext s; rw [stmtLoop]; simp only [handleM, bindM]
  generalize evalStmt fuel st env s = res
  obtain ⟨r, s1⟩ := res
  cases r with
  | ok sig => cases sig <;> rfl
  | err k msg =>
    dsimp only
    generalize runDefers fuel ds env s1 = res2
    obtain ⟨r2, s2⟩ := res2
    cases r2 <;> rfl
  | _ => rfl

/-- the raw match of the `~` chains: a nil result or an error goes one way, any other value the other -/
theorem thoughtful_match {β : Type} (m : M Val) (onNil : M β) (onVal : Val → M β) :
    (fun s => match m s with
      | (.ok .nil, s') => onNil s'
      | (.ok v, s') => onVal v s'
      | (.err _ _, s') => onNil s'
      | (.fuel, s') => (.fuel, s')
      | (.unsup w, s') => (.unsup w, s')) =
      handleM m (fun v => match v with | .nil => onNil | v => onVal v) (fun _ _ => onNil) := by
  funext s; simp only [handleM]
  generalize m s = res
  obtain ⟨r, s1⟩ := res
  cases r with
  | ok v => cases v <;> rfl
  | _ => rfl

/-- `~.`: a nil result or an error of the call gives the receiver -/
theorem propAdd_thoughtful (fuel : Nat) (recv : Val) (name : String) (args : List Val) (kw : List (String × Val)) (env : Nat) :
    propAdd (fuel + 1) .thoughtful recv name args kw env =
      handleM (callProp fuel recv name args kw env)
        (fun v => match v with | .nil => pureM recv | v => pureM v) (fun _ _ => pureM recv) := by
  rw [propAdd]; exact thoughtful_match _ (pureM recv) pureM

theorem litAdd_thoughtful (fuel : Nat) (f recv : Val) (env : Nat) :
    litAdd (fuel + 1) .thoughtful f recv env =
      handleM (litCallOne fuel f recv env) (fun v => match v with | .nil => pureM recv | v => pureM v) (fun _ _ => pureM recv) := by
  rw [litAdd]; exact thoughtful_match _ (pureM recv) pureM

/-- a chain ends at the first StopIterErr of its iterator -/
theorem nextElem_iter (fuel id : Nat) :
    nextElem (fuel + 1) (.iter id) =
      handleM (iterNext fuel id) (fun v => pureM (some (v, .iter id)))
        (fun k msg => if k == "StopIterErr" then pureM none else throwM k msg) := by
  funext s; rw [nextElem]; simp only [handleM]
  generalize iterNext fuel id s = res
  obtain ⟨r, s1⟩ := res
  cases r with
  | err k msg => dsimp only; split <;> rfl
  | _ => rfl

/-- `~$`: a nil result or an error of a step keeps the accumulator -/
theorem litReduceLoop_thoughtful (fuel : Nat) (src : Src) (acc f : Val) (env : Nat) :
    litReduceLoop (fuel + 1) .thoughtful src acc f env =
      nextElem fuel src >>== fun nx => match nx with
        | none => pureM acc
        | some (e, src') =>
          handleM (litCallOne fuel f (.arr [acc, e]) env)
            (fun v => match v with
              | .nil => litReduceLoop fuel .thoughtful src' acc f env
              | v => litReduceLoop fuel .thoughtful src' v f env)
            (fun _ _ => litReduceLoop fuel .thoughtful src' acc f env) := by
  rw [litReduceLoop]
  congr 1; funext nx
  split
  · rfl
  · exact thoughtful_match _ _ _

end Pangaea.Core

namespace Pangaea.C15
open Pangaea.Core

/-- the evaluation ended (with a value or an error): the budget was sufficient and the program is inside the modelled
    core. (`R.notFuel` of Lemmas/Fuel.lean also admits `unsup`: an answer that more fuel does not change; `Ended` is
    what a specification can describe.) -/
def Ended {α : Type} : R α → Prop
  | .ok _ => True
  | .err _ _ => True
  | _ => False

theorem Ended.not_outOfFuel {α : Type} {s s' : St} {r : R α} (h : (outOfFuel : M α) s = (r, s')) (he : Ended r) : False := by
  cases h; exact he

/-- a handler that ended ran its first part to a value or to an error, and then the matching continuation
    (for a bind: `m >>== f` is `handleM m f throwM` by definition, so this opens binds too) -/
theorem Ended.handleM {α β : Type} {m : M α} {f : α → M β} {g : String → String → M β} {s s' : St} {r : R β}
    (h : handleM m f g s = (r, s')) (he : Ended r) :
    (∃ a s1, m s = (.ok a, s1) ∧ f a s1 = (r, s')) ∨ (∃ k msg s1, m s = (.err k msg, s1) ∧ g k msg s1 = (r, s')) := by
  unfold Core.handleM at h
  rcases hms : m s with ⟨rm, s1⟩
  rw [hms] at h
  cases rm with
  | ok a => exact .inl ⟨a, s1, rfl, h⟩
  | err k msg => exact .inr ⟨k, msg, s1, rfl, h⟩
  | _ => cases h; exact he.elim

end Pangaea.C15
