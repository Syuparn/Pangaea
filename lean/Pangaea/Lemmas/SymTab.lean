/- C20. `Inv` ties the two counters of the mutex to the threads' own flags (by `countP`) and keeps every
   remaining program guarded; each step of each thread preserves it, and it leaves no room for a race. -/
import Pangaea.Object.SymTab
namespace Pangaea.SymTabLemmas
open Pangaea.SymTab

theorem countP_eraseIdx {α : Type} (p : α → Bool) {l : List α} {i : Nat} {a : α} (h : l[i]? = some a) :
    l.countP p = (l.eraseIdx i).countP p + (p a).toNat := by
  induction l generalizing i with
  | nil => cases h
  | cons x xs ih =>
    cases i with
    | zero => cases h; rw [List.eraseIdx_cons_zero, List.countP_cons]; cases p a <;> rfl
    | succ j => rw [List.eraseIdx_cons_succ, List.countP_cons, List.countP_cons, ih h]; omega

/-- one `n` for both counts: `omega` in `inv_step` then sees a single atom for the other threads' share -/
theorem countP_set {α : Type} (p : α → Bool) {l : List α} {i : Nat} {a : α} (h : l[i]? = some a) (b : α) :
    ∃ n, l.countP p = n + (p a).toNat ∧ (l.set i b).countP p = n + (p b).toNat :=
  ⟨_, countP_eraseIdx p h, by
    rw [countP_eraseIdx p (List.getElem?_set_self (List.getElem?_eq_some_iff.mp h).1), List.eraseIdx_set_eq]⟩

structure Inv (s : Sys) : Prop where
  readers_eq : s.readers = s.threads.countP (·.hr)
  writer_eq : s.writer.toNat = s.threads.countP (·.hw)
  excl : s.writer = true → s.readers = 0
  prog : ∀ t ∈ s.threads, guarded t.hr t.hw t.todo = true

/-- the step seen from the stepping thread alone: `hr`, `hw` say that it is among the holders counted in
    `r`, `w`; the other threads come in through `countP_set` in `inv_step` -/
theorem stepThread_inv {t t' : Thread} {r r' : Nat} {w w' : Bool}
    (hs : stepThread t r w = some (t', r', w')) (hg : guarded t.hr t.hw t.todo = true)
    (hr : t.hr.toNat ≤ r) (hw : t.hw.toNat ≤ w.toNat) (hex : w = true → r = 0) :
    guarded t'.hr t'.hw t'.todo = true ∧ r' + t.hr.toNat = r + t'.hr.toNat ∧
      w'.toNat + t.hw.toNat = w.toNat + t'.hw.toNat ∧ (w' = true → r' = 0) := by
  obtain ⟨todo, thr, thw⟩ := t
  cases todo with
  | nil => cases hs
  | cons a as =>
    cases a <;> simp [stepThread] at hs <;> simp [guarded] at hg
    case rlock =>
      obtain ⟨rfl, rfl, rfl, rfl⟩ := hs
      obtain ⟨⟨rfl, rfl⟩, hg⟩ := hg
      exact ⟨hg, rfl, rfl, nofun⟩
    case runlock =>
      obtain ⟨rfl, rfl, rfl⟩ := hs
      obtain ⟨rfl, hg⟩ := hg
      exact ⟨hg, Nat.sub_add_cancel hr, rfl, fun h => by rw [hex h]⟩
    case lock =>
      obtain ⟨⟨rfl, rfl⟩, rfl, rfl, rfl⟩ := hs
      obtain ⟨⟨rfl, rfl⟩, hg⟩ := hg
      exact ⟨hg, rfl, rfl, fun _ => rfl⟩
    case unlock =>
      obtain ⟨rfl, rfl, rfl⟩ := hs
      obtain ⟨rfl, hg⟩ := hg
      obtain rfl : w = true := by cases w; cases hw; rfl
      exact ⟨hg, rfl, rfl, nofun⟩
    case read | write =>
      obtain ⟨rfl, rfl, rfl⟩ := hs
      exact ⟨hg.2, rfl, rfl, hex⟩

theorem inv_step {s s' : Sys} (hinv : Inv s) (hst : Step s s') : Inv s' := by
  obtain ⟨i, t, t', r', w', hi, hs⟩ := hst
  obtain ⟨nr, hr, hr'⟩ := countP_set (·.hr) hi t'
  obtain ⟨nw, hw, hw'⟩ := countP_set (·.hw) hi t'
  have eR := hinv.readers_eq
  have eW := hinv.writer_eq
  obtain ⟨hg', sR, sW, hex'⟩ :=
    stepThread_inv hs (hinv.prog t (List.mem_of_getElem? hi)) (by omega) (by omega) hinv.excl
  exact ⟨by dsimp only; omega, by dsimp only; omega, hex',
    fun u hu => (List.mem_or_eq_of_mem_set hu).elim (hinv.prog u) (· ▸ hg')⟩

theorem inv_reach {s0 s : Sys} (h0 : Inv s0) (hr : Reach s0 s) : Inv s := by
  induction hr with
  | refl => exact h0
  | step _ hst ih => exact inv_step ih hst

theorem no_race {s : Sys} (hinv : Inv s) : ¬ Race s := by
  rintro ⟨i, j, ti, tj, tb, as, bs, hij, hi, hj, hti, htj⟩
  have gi := hinv.prog ti (List.mem_of_getElem? hi)
  have gj := hinv.prog tj (List.mem_of_getElem? hj)
  -- the writing thread holds the write lock, the other one some lock
  have hwi : ti.hw = true := by rw [hti] at gi; simp only [guarded, Bool.and_eq_true] at gi; exact gi.1
  have hj' : tj.hr = true ∨ tj.hw = true := by
    rcases htj with htj | htj <;> rw [htj] at gj <;> simp only [guarded, Bool.and_eq_true, Bool.or_eq_true] at gj
    · exact .inr gj.1
    · exact gj.1
  have hW := hinv.writer_eq
  have hle := Bool.toNat_le s.writer
  have hi' := countP_eraseIdx (·.hw) hi
  rw [hwi, Bool.toNat_true] at hi'
  rcases hj' with h | h
  · -- a reader next to the writer: the write lock is taken, so nobody holds the read lock
    have h0 := hinv.excl (Bool.toNat_eq_one.mp (by omega))
    have : 0 < s.threads.countP (·.hr) := List.countP_pos_iff.mpr ⟨tj, List.mem_of_getElem? hj, h⟩
    rw [hinv.readers_eq] at h0; omega
  · -- a second holder of the write lock
    have : 0 < (s.threads.eraseIdx i).countP (·.hw) :=
      List.countP_pos_iff.mpr ⟨tj, List.mem_eraseIdx_iff_getElem?.mpr ⟨j, hij.symm, hj⟩, h⟩
    omega

theorem race_free (progs : List (List Act)) (hg : ∀ p ∈ progs, guarded false false p = true)
    (s : Sys) (hr : Reach (initSys progs) s) : ¬ Race s := by
  refine no_race (inv_reach ⟨?_, ?_, by simp [initSys], ?_⟩ hr)
  · simp [initSys, List.countP_map, Function.comp_def]
  · simp [initSys, List.countP_map, Function.comp_def]
  · intro t ht
    obtain ⟨p, hp, rfl⟩ := List.mem_map.mp ht
    exact hg p hp

theorem guardedEnd_guarded : ∀ (p : List Act) (hr hw : Bool) (e : Bool × Bool),
    guardedEnd hr hw p = some e → guarded hr hw p = true
  | [], _, _, _, _ => rfl
  | a :: as, hr, hw, e, h => by
    -- `h` becomes: the guard of `a` holds, and the rest ends in `e`
    cases a <;> simp only [guardedEnd, Option.ite_none_right_eq_some] at h <;>
      exact Bool.and_eq_true_iff.mpr ⟨h.1, guardedEnd_guarded as _ _ e h.2⟩

theorem guardedEnd_append : ∀ (p q : List Act) (hr hw : Bool) (e : Bool × Bool),
    guardedEnd hr hw p = some e → guardedEnd hr hw (p ++ q) = guardedEnd e.1 e.2 q
  | [], q, hr, hw, e, h => by simp only [guardedEnd] at h; cases h; rfl
  | a :: as, q, hr, hw, e, h => by
    cases a <;> simp only [guardedEnd, Option.ite_none_right_eq_some] at h <;>
      exact (if_pos h.1).trans (guardedEnd_append as q _ _ e h.2)

theorem balanced_iff {p : List Act} : balanced p = true ↔ guardedEnd false false p = some (false, false) :=
  beq_iff_eq

theorem guarded_of_balanced {p : List Act} (h : balanced p = true) : guarded false false p = true :=
  guardedEnd_guarded p _ _ _ (balanced_iff.mp h)

theorem balanced_flatten (calls : List (List Act)) (h : ∀ f ∈ calls, balanced f = true) :
    balanced calls.flatten = true := by
  induction calls with
  | nil => rfl
  | cons f fs ih =>
    rw [List.forall_mem_cons] at h
    rw [List.flatten_cons, balanced_iff, guardedEnd_append _ _ _ _ _ (balanced_iff.mp h.1)]
    exact balanced_iff.mp (ih h.2)

end Pangaea.SymTabLemmas
