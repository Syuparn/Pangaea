/- C06. Appending to a fresh empty slice only extends the heap (`h <+: h'`), and slices that
   point into a heap read the same in every extension of it. -/
import Pangaea.Object.GoHeap
namespace Pangaea.GoHeap

theorem view_of_prefix {h h' : Heap} (hpre : h <+: h') {s : Slice} (hs : s.len = 0 ∨ WF h s) :
    view h' s = view h s := by
  obtain ⟨t, rfl⟩ := hpre
  unfold view
  rcases hs with h0 | hw
  · rw [h0, List.take_zero, List.take_zero]
  · rw [List.getD_eq_getElem?_getD, List.getD_eq_getElem?_getD, List.getElem?_append_left hw]

/-- `xs = []` takes the in-place branch of `goAppend`, on capacity 0: its `set` is out of range and writes
    nothing -/
theorem goAppend_emptySlice (grow : Nat → Nat) (h : Heap) (xs : List Val) :
    goAppend grow h (emptySlice h) xs =
      if xs = [] then (h, emptySlice h)
      else (h ++ [xs ++ List.replicate (max (grow xs.length) xs.length - xs.length) 0],
            ⟨h.length, xs.length, max (grow xs.length) xs.length⟩) := by
  cases xs with
  | nil => simp [goAppend, emptySlice, List.set_eq_of_length_le]
  | cons x xs => simp [goAppend, emptySlice, view]

theorem fresh_prefix (grow : Nat → Nat) (h : Heap) (xs : List Val) :
    h <+: (goAppend grow h (emptySlice h) xs).1 := by
  rw [goAppend_emptySlice]
  split
  · exact List.prefix_refl h
  · exact List.prefix_append h _

theorem fresh_result (grow : Nat → Nat) (h : Heap) (xs : List Val) :
    let r := goAppend grow h (emptySlice h) xs
    view r.1 r.2 = xs := by
  rw [goAppend_emptySlice]
  split
  · next hx => subst hx; rfl
  · simp [view]

theorem plusFresh_frozen (grow) (h : Heap) (a b p : Slice) (hp : WF h p) :
    view (plusFresh grow h a b).1 p = view h p :=
  view_of_prefix (fresh_prefix grow h _) (.inr hp)

end Pangaea.GoHeap
