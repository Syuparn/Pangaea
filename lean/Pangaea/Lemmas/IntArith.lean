/- C10. Lean's `Int.fdiv` meets the division-free characterisation of the floor
   quotient, and is what Go's truncated quotient with the sign correction computes. -/
import Pangaea.Props.IntArith
namespace Pangaea.IntArithLemmas
open Pangaea Pangaea.IntArith

/-- floor quotient characterised without any library division -/
def IsFloorQuot (a b q : Int) : Prop :=
  (b > 0 → q * b ≤ a ∧ a < (q + 1) * b) ∧ (b < 0 → q * b ≥ a ∧ a > (q + 1) * b)

theorem isFloorQuot_neg {a b q : Int} (h : IsFloorQuot a b q) : IsFloorQuot (-a) (-b) q := by
  unfold IsFloorQuot at *
  simp only [Int.mul_neg]
  exact ⟨fun hb => by have := h.2 (by omega); omega, fun hb => by have := h.1 (by omega); omega⟩

theorem isFloorQuot_fdiv (a b : Int) : IsFloorQuot a b (a.fdiv b) := by
  have pos : ∀ a b : Int, 0 < b → a.fdiv b * b ≤ a ∧ a < (a.fdiv b + 1) * b := fun a b hb => by
    have hm := Int.fmod_add_mul_fdiv a b
    have h1 := Int.fmod_nonneg_of_pos a hb
    have h2 := Int.fmod_lt_of_pos a hb
    rw [Int.add_mul, Int.one_mul, Int.mul_comm]; omega
  refine ⟨pos a b, fun hb => ?_⟩
  have := pos (-a) (-b) (by omega)
  rw [Int.neg_fdiv_neg, Int.mul_neg, Int.mul_neg] at this; omega

theorem floorQuot_unique (a b q q' : Int) (hb : b ≠ 0)
    (h : IsFloorQuot a b q) (h' : IsFloorQuot a b q') : q = q' := by
  have pos : ∀ {a b q q' : Int}, 0 < b → IsFloorQuot a b q → IsFloorQuot a b q' → q ≤ q' :=
    fun hb h h' => Int.le_of_lt_add_one
      (Int.lt_of_mul_lt_mul_right (Int.lt_of_le_of_lt (h.1 hb).1 (h'.1 hb).2) (Int.le_of_lt hb))
  rcases Int.lt_or_gt_of_ne hb with hneg | hpos
  · have hb' : 0 < -b := by omega
    exact Int.le_antisymm (pos hb' (isFloorQuot_neg h) (isFloorQuot_neg h'))
      (pos hb' (isFloorQuot_neg h') (isFloorQuot_neg h))
  · exact Int.le_antisymm (pos hpos h h') (pos hpos h' h)

/-- the right-hand side is the test of `Int#//` in int_props.go -/
theorem fdiv_eq_tdiv_corrected (a b : Int) (hb : b ≠ 0) :
    a.fdiv b =
      if (decide (a < 0) != decide (b < 0)) && a.tmod b != 0 then a.tdiv b - 1 else a.tdiv b := by
  rw [Int.fdiv_eq_tdiv]
  by_cases hm : a.tmod b = 0
  · simp [Int.dvd_iff_tmod_eq_zero, hm]
  · rcases Int.lt_or_gt_of_ne hb with hn | hp
    · by_cases ha : a < 0
      · simp [Int.dvd_iff_tmod_eq_zero, hm, ha, hn, Int.sign_eq_neg_one_of_neg hn,
          Int.not_le.mpr hn, Int.not_le.mpr ha]
      · simp [Int.dvd_iff_tmod_eq_zero, hm, ha, hn, Int.not_le.mpr hn, Int.not_lt.mp ha]
    · by_cases ha : a < 0
      · simp [Int.dvd_iff_tmod_eq_zero, hm, ha, Int.sign_eq_one_of_pos hp, Int.le_of_lt hp,
          Int.not_le.mpr ha, Int.not_lt.mpr (Int.le_of_lt hp)]
      · simp [Int.dvd_iff_tmod_eq_zero, hm, ha, Int.le_of_lt hp, Int.not_lt.mp ha,
          Int.not_lt.mpr (Int.le_of_lt hp)]

/-- why `intPow` may give up at `exp > 63` without computing the power -/
theorem two64_le_pow (base : Int) (e : Nat) (he : 63 < e) (hb : base > 1 ∨ base < -1) :
    ¬ fits64 (base ^ e) := by
  intro hf
  have h : 2 ^ 64 ≤ base.natAbs ^ e :=
    Nat.le_trans (Nat.pow_le_pow_right (by decide) he) (Nat.pow_le_pow_left (by omega) e)
  rw [← Int.natAbs_pow] at h
  unfold fits64 at hf
  omega

theorem neg_one_pow (e : Nat) : (-1 : Int) ^ e = if e % 2 = 0 then 1 else -1 := by
  rw [Int.neg_pow, Int.one_pow, Int.mul_one]
  rcases Nat.mod_two_eq_zero_or_one e with h | h <;> rw [h] <;> rfl

theorem ipow_eq (base : Int) (e : Nat) : ipow base e = base ^ e := by
  unfold ipow
  by_cases h0 : base = 0
  · subst h0
    cases e with
    | zero => simp
    | succ k => simp [Int.pow_succ]
  · by_cases h1 : base = 1
    · subst h1; simp [Int.one_pow]
    · by_cases h2 : base = -1
      · subst h2; simp [neg_one_pow]
      · simp [h0, h1, h2]

end Pangaea.IntArithLemmas
