/- Association lists with distinct keys: what `List.lookup` finds. -/
namespace Pangaea

section
variable {α β : Type} [BEq α] [LawfulBEq α] {l : List (α × β)} {k : α} {v : β}

theorem mem_of_lookup (h : l.lookup k = some v) : (k, v) ∈ l := by
  obtain ⟨s, t, rfl, -⟩ := List.lookup_eq_some_iff.1 h
  exact List.mem_append_right _ (List.mem_cons_self ..)

theorem lookup_of_mem (hnd : (l.map (·.1)).Nodup) (hm : (k, v) ∈ l) : l.lookup k = some v := by
  induction l with
  | nil => cases hm
  | cons p l ih =>
    obtain ⟨hp, hnd⟩ := List.nodup_cons.1 hnd
    rcases List.mem_cons.1 hm with rfl | hm
    · exact List.lookup_cons_self
    · have hk : (k == p.1) = false := beq_false_of_ne fun he => hp (List.mem_map.2 ⟨_, hm, he⟩)
      rw [List.lookup_cons, hk]; exact ih hnd hm

end

end Pangaea
