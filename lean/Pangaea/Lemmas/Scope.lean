/- Footprint of the Core evaluator on scopes: which frames an evaluation may change. `Sim.pres` carries the footprint
   of the state primitives to every program built from them (Lemmas/Sim.lean). -/
import Pangaea.Lemmas.Sim
namespace Pangaea.Core

/-- frame `id` is the current scope of some iterator -/
def IterEnv (s : St) (id : Nat) : Prop := ∃ it, it ∈ s.iters ∧ it.env = id

/-- `Pres cur s s'`: going from `s` to `s'`, scopes are only added; every scope that existed in `s`, is not
    `cur` and is not an iterator's own scope is unchanged; no existing scope became an iterator's scope. -/
structure Pres (cur : Option Nat) (s s' : St) : Prop where
  len : s.frames.length ≤ s'.frames.length
  same : ∀ id, id < s.frames.length → cur ≠ some id → ¬ IterEnv s id → s'.frames[id]? = s.frames[id]?
  iters : ∀ id, id < s.frames.length → IterEnv s' id → IterEnv s id

theorem Pres.refl (c : Option Nat) (s : St) : Pres c s s := ⟨Nat.le_refl _, fun _ _ _ _ => rfl, fun _ _ h => h⟩

/-- composition; the second step may run in the same scope, in a scope created after `s0`, or in an iterator's scope -/
theorem Pres.trans' {c c' : Option Nat} {s0 s1 s2 : St} (h1 : Pres c s0 s1) (h2 : Pres c' s1 s2)
    (hc : ∀ e, c' = some e → c = some e ∨ s0.frames.length ≤ e ∨ IterEnv s1 e) : Pres c s0 s2 := by
  refine ⟨Nat.le_trans h1.len h2.len, ?_, ?_⟩
  · intro id hid hcur hit
    have hit1 : ¬ IterEnv s1 id := fun h => hit (h1.iters id hid h)
    have hc' : c' ≠ some id := by
      intro he
      rcases hc id he with h | h | h
      · exact hcur h
      · omega
      · exact hit1 h
    rw [h2.same id (Nat.lt_of_lt_of_le hid h1.len) hc' hit1, h1.same id hid hcur hit]
  · intro id hid h
    exact h1.iters id hid (h2.iters id (Nat.lt_of_lt_of_le hid h1.len) h)

theorem Pres.trans {c : Option Nat} {s0 s1 s2 : St} (h1 : Pres c s0 s1) (h2 : Pres c s1 s2) : Pres c s0 s2 :=
  h1.trans' h2 (fun _ he => Or.inl he)

def PresM {α : Type} (cur : Option Nat) (m : M α) : Prop := ∀ s, Pres cur s (m s).2

theorem PresM.handle {α β : Type} {c : Option Nat} {m : M α} {f : α → M β} {g : String → String → M β}
    (hm : PresM c m) (hf : ∀ a, PresM c (f a)) (hg : ∀ k msg, PresM c (g k msg)) : PresM c (handleM m f g) := by
  intro s
  unfold handleM
  have h1 := hm s
  rcases hms : m s with ⟨r, s1⟩
  rw [hms] at h1
  cases r with
  | ok a => exact h1.trans (hf a s1)
  | err k msg => exact h1.trans (hg k msg s1)
  | _ => exact h1

theorem PresM.of_frames_iters_eq {α : Type} (c : Option Nat) (m : M α)
    (h : ∀ s, (m s).2.frames = s.frames ∧ (m s).2.iters = s.iters) : PresM c m := by
  intro s
  obtain ⟨hf, hi⟩ := h s
  refine ⟨by rw [hf]; exact Nat.le_refl _, fun id _ _ _ => by rw [hf], fun id _ hit => ?_⟩
  obtain ⟨it, hm, he⟩ := hit
  exact ⟨it, by rw [← hi]; exact hm, he⟩

theorem Pres.append (c : Option Nat) (s : St) (extra : List Frame) : Pres c s { s with frames := s.frames ++ extra } := by
  refine ⟨by simp, fun id hid _ _ => by simp [List.getElem?_append_left hid], fun id _ h => h⟩

theorem PresM.copyFrame (c : Option Nat) (env : Nat) : PresM c (copyFrame env) := fun s => Pres.append c s _

/-- `Env.Set` writes the scope it is given: that is inside the footprint when the scope is the current one or an
    iterator's own -/
theorem Pres.setVar {c : Option Nat} {s : St} {env : Nat} (x : String) (v : Val) (h : c = some env ∨ IterEnv s env) :
    Pres c s (setVar env x v s).2 := by
  refine ⟨by simp [Core.setVar], fun id _ hcur hn => ?_, fun id _ h => h⟩
  have : env ≠ id := fun he => h.elim (fun hc => hcur (he ▸ hc)) (fun hit => hn (he ▸ hit))
  simp [Core.setVar, this]

theorem iterEnv_lt_of_new {s : St} {id : Nat} {fr : Frame} {params : List String} {kwd : List (String × Val)} {body : List Stmt}
    (hid : id < s.frames.length) (h : IterEnv (newIter fr params kwd body s).2 id) : IterEnv s id := by
  obtain ⟨it, hm, he⟩ := h
  simp only [newIter, List.mem_append, List.mem_singleton] at hm
  rcases hm with hm | rfl
  · exact ⟨it, hm, he⟩
  · simp at he; omega

theorem PresM.newIter (c : Option Nat) (fr : Frame) (params : List String) (kwd : List (String × Val)) (body : List Stmt) :
    PresM c (newIter fr params kwd body) := by
  intro s
  refine ⟨by simp [Core.newIter], fun id hid _ _ => by simp [Core.newIter, List.getElem?_append_left hid], fun id hid h => iterEnv_lt_of_new hid h⟩

theorem PresM.repointIter (c : Option Nat) (id : Nat) (fr : Frame) : PresM c (repointIter id fr) := by
  intro s
  refine ⟨by simp [Core.repointIter], fun j hj _ _ => by simp [Core.repointIter, List.getElem?_append_left hj], fun j hj h => ?_⟩
  obtain ⟨it, hm, he⟩ := h
  simp only [Core.repointIter] at hm
  obtain ⟨k, hk, hget⟩ := List.mem_iff_getElem.1 hm
  rw [List.getElem_modify] at hget
  by_cases hki : id = k
  · simp [hki] at hget
    rw [← hget] at he; simp at he; omega
  · simp [hki] at hget
    exact ⟨it, by rw [← hget]; exact List.getElem_mem _, he⟩

/-- **Footprint.** A program may change, of the scopes that exist, only the scope it is given and the iterators' own. -/
theorem Sim.pres {α : Type} {c : Option Nat} {m m' : M α} : ∀ {n : Nat}, Sim n c m m' → PresM c m
  | n + 1, h => (sim_succ h).pres
  | 0, h => by
    induction h with
    | enterCall c _ _ _ _ _ _ ih =>
      -- the body's scope `e` is the frame the call has just appended
      intro s
      exact (Pres.append c s _).trans' (ih _ _) fun e he => .inr (.inl (by cases he; exact Nat.le_refl _))
    | iterBody c id x v _ ih =>
      intro s
      unfold bindM Core.getIter
      cases hid : s.iters[id]? with
      | none => exact Pres.refl _ _
      | some it =>
        have hit : IterEnv s it.env := ⟨it, List.mem_of_getElem? hid, rfl⟩
        exact (Pres.setVar x v (.inr hit)).trans' (ih it _) fun e he => .inr (.inr (by cases he; exact hit))
    | bind _ _ ih1 ih2 => exact PresM.handle ih1 ih2 fun _ _ s => Pres.refl _ s
    | handle _ _ _ ih1 ih2 ih3 => exact PresM.handle ih1 ih2 ih3
    | setVar env x v => exact fun _ => Pres.setVar x v (.inl rfl)
    | allocFrame c fr => exact fun s => Pres.append c s [fr]
    | newIter c fr ps kwd body => exact PresM.newIter c fr ps kwd body
    | copyIter c it => exact fun s => PresM.newIter c _ _ _ _ s
    | repointIter c id fr => exact PresM.repointIter c id fr
    | readLine c => exact .of_frames_iters_eq c _ fun s => by unfold Core.readLine; cases s.inp <;> exact ⟨rfl, rfl⟩
    | getIter c id => exact .of_frames_iters_eq c _ fun s => by unfold Core.getIter; cases s.iters[id]? <;> exact ⟨rfl, rfl⟩
    -- what is left keeps frames and iterators as they are, a call with fuel 0 (`outOfFuel`) included
    | _ => with_unfolding_all exact .of_frames_iters_eq _ _ fun _ => ⟨rfl, rfl⟩

end Pangaea.Core
