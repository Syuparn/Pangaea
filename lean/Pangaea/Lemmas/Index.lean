/- C11. The Go loop is the reference walk as long as the cursor, one stride beyond the
   window that holds start and stop, still fits in int64; the walk is the progression `Prog`; a stride
   longer than the window selects what any longer stride of the same sign selects. -/
import Pangaea.Eval.Index
import Pangaea.Eval.IndexSpec
namespace Pangaea.C11
open Pangaea.Index

/-- Go slices are far shorter than 2^62 elements -/
abbrev SizeOk (n : Nat) : Prop := (n : Int) < 4611686018427387904

/-- bounds written in a range literal are int64 values -/
abbrev BoundOk (b : Bound) : Prop := ∀ v, b = .int v → fits64 v

abbrev Usable (b : Bound) : Prop := b ≠ .other

end Pangaea.C11

namespace Pangaea.IndexLemmas
open Pangaea Pangaea.Index Pangaea.IndexSpec Pangaea.C11

def toOpt : Bound → Option Int
  | .int v => some v
  | _ => none

theorem hasNext_eq (step i e : Int) : hasNext step i e = decide (before step i e) := by
  unfold hasNext before
  by_cases hs : step < 0
  · simp [hs, Int.not_le.mpr hs]
  · simp [hs, Int.not_lt.mp hs]

theorem prog_unique {step e : Int} {i : Int} {L L' : List Int}
    (h : Prog step e i L) (h' : Prog step e i L') : L = L' := by
  induction h generalizing L' with
  | stop hn => cases h' with
    | stop _ => rfl
    | next hb _ => exact absurd hb hn
  | next hb _ ih => cases h' with
    | stop hn => exact absurd hb hn
    | next _ hp => rw [ih hp]

theorem walk_prog (step e : Int) (hstep : step ≠ 0) :
    ∀ (fuel : Nat) (i : Int),
      ((0 ≤ step → e - i < fuel) ∧ (step < 0 → i - e < fuel)) →
      Prog step e i (walk step e fuel i) := by
  intro fuel
  induction fuel with
  | zero => intro i hf; exact .stop (by unfold before; omega)
  | succ k ih =>
    intro i hf
    rw [walk]
    split
    · next hb => exact .next hb (ih _ (by unfold before at hb; omega))
    · next hb => exact .stop hb

theorem prog_window {step e : Int} {i : Int} {L : List Int} (h : Prog step e i L) :
    ∀ j ∈ L, (0 ≤ step → i ≤ j ∧ j < e) ∧ (step < 0 → e < j ∧ j ≤ i) := by
  induction h with
  | stop _ => intro j hj; cases hj
  | @next i L hb _ ih =>
    intro j hj
    unfold before at hb
    rcases List.mem_cons.mp hj with rfl | hj
    · omega
    · have := ih j hj; omega

theorem loop_eq_walk {step e lo hi S : Int} (he : lo ≤ e ∧ e ≤ hi) (hS : -S ≤ step ∧ step ≤ S)
    (hfit : -9223372036854775808 ≤ lo - S ∧ hi + S < 9223372036854775808) :
    ∀ (fuel : Nat) (i : Int), lo - S ≤ i → i ≤ hi + S → loop step e fuel i = walk step e fuel i := by
  intro fuel
  induction fuel with
  | zero => intros; rfl
  | succ k ih =>
    intro i h1 h2
    rw [loop, walk, hasNext_eq]
    by_cases hb : before step i e
    · -- a cursor before the stop position is inside the window, so the next one is within a stride of it
      have hw : lo - S ≤ i + step ∧ i + step ≤ hi + S := by unfold before at hb; omega
      rw [if_pos (decide_eq_true hb), if_pos hb, wrap64_of_fits ⟨by omega, by omega⟩, ih _ hw.1 hw.2]
    · rw [if_neg (by simpa using hb), if_neg hb]

/-- a stride longer than the window (`w`) selects the start position or nothing -/
theorem prog_long_stride {step step' e s w : Int} {L : List Int} (hw : -w ≤ s - e ∧ s - e ≤ w)
    (hl : (step' < -w ∧ step < -w) ∨ (w < step' ∧ w < step)) (h : Prog step' e s L) :
    Prog step e s L := by
  have hb : before step' s e ↔ before step s e := by unfold before; omega
  have hn : ∀ {t}, t < -w ∨ w < t → ¬ before t (s + t) e := fun ht => by unfold before; omega
  cases h with
  | stop h0 => exact .stop (mt hb.2 h0)
  | next h1 hp =>
    cases hp with
    | stop _ => exact .next (hb.1 h1) (.stop (hn (by omega)))
    | next h2 _ => exact absurd h2 (hn (by omega))

theorem clampStep_cases (n : Nat) (hn : SizeOk n) (step : Int) :
    (clampStep n step = step ∧ -(n : Int) - 1 ≤ step ∧ step ≤ n + 1) ∨
    (clampStep n step = n + 1 ∧ n + 1 < step) ∨ (clampStep n step = -(n : Int) - 1 ∧ step < -(n : Int) - 1) := by
  unfold clampStep
  rw [wrap64_of_fits (x := (n : Int) + 1) ⟨by omega, by omega⟩,
    wrap64_of_fits (x := -(n : Int)) ⟨by omega, by omega⟩,
    wrap64_of_fits (x := -(n : Int) - 1) ⟨by omega, by omega⟩]
  by_cases h1 : step > n + 1
  · exact .inr (.inl ⟨if_pos h1, h1⟩)
  · rw [if_neg h1]
    by_cases h2 : step < -(n : Int) - 1
    · exact .inr (.inr ⟨if_pos h2, h2⟩)
    · exact .inl ⟨if_neg h2, Int.not_lt.mp h2, Int.not_lt.mp h1⟩

theorem fix_norm (n : Nat) (hn : SizeOk n) (step i : Int) (hi : fits64 i) :
    fix n (lower step) (upper n step) i = norm n step i := by
  unfold fix norm fixNeg fromEnd
  split
  · rw [wrap64_of_fits ⟨by have := hi.1; omega, by omega⟩]; rfl
  · rfl

/-- `fixRange` looks at the sign of the step only. -/
theorem fixRange_spec (n : Nat) (hn : SizeOk n) (start stop : Bound)
    {step step' : Int} (hsign : step' < 0 ↔ step < 0)
    (hstart : BoundOk start) (hstop : BoundOk stop) :
    fixRange n start stop step' = (startOf n step (toOpt start), stopOf n step (toOpt stop)) := by
  simp only [fixRange, hsign, wrap64_of_fits (x := (n : Int) - 1) ⟨by omega, by omega⟩]
  congr 1
  · cases start with
    | int i => exact fix_norm n hn step i (hstart i rfl)
    | _ => rfl
  · cases stop with
    | int i => exact fix_norm n hn step i (hstop i rfl)
    | _ => rfl

theorem lower_le_upper (n : Nat) (step : Int) : lower step ≤ upper n step := by
  unfold lower upper; omega

theorem clamp_mem {lo hi : Int} (h : lo ≤ hi) (j : Int) : lo ≤ clamp lo hi j ∧ clamp lo hi j ≤ hi := by
  unfold clamp; omega

theorem startOf_window (n : Nat) (step : Int) (b : Option Int) :
    lower step ≤ startOf n step b ∧ startOf n step b ≤ upper n step := by
  have := lower_le_upper n step
  cases b with
  | some i => exact clamp_mem this _
  | none => simp only [startOf]; omega

theorem stopOf_window (n : Nat) (step : Int) (b : Option Int) :
    lower step ≤ stopOf n step b ∧ stopOf n step b ≤ upper n step := by
  have := lower_le_upper n step
  cases b with
  | some i => exact clamp_mem this _
  | none => simp only [stopOf]; omega

theorem window_width {n : Nat} {step x y : Int}
    (hx : lower step ≤ x ∧ x ≤ upper n step) (hy : lower step ≤ y ∧ y ≤ upper n step) :
    (-1 ≤ x ∧ x ≤ n) ∧ (-1 ≤ y ∧ y ≤ n) ∧ -(n : Int) ≤ x - y ∧ x - y ≤ n := by
  unfold lower upper at hx hy; omega

theorem usable_of_ne {b : Bound} (h : Usable b) : b.usable = true := by
  cases b <;> first | rfl | exact absurd rfl h

theorem goAt_inRange {α} (xs : List α) (k : Int) (h : 0 ≤ k ∧ k < xs.length) :
    ∃ v, xs[k.toNat]? = some v ∧ goAt xs k = .ok v := by
  have hk : k.toNat < xs.length := by omega
  refine ⟨xs[k.toNat], List.getElem?_eq_getElem hk, ?_⟩
  rw [goAt, if_neg (by omega), List.getElem?_eq_getElem hk]

theorem arrIndex_spec {α} (xs : List α) (i : Int)
    (hn : SizeOk xs.length) : arrIndex i xs = .ok (specAt xs i) := by
  simp only [arrIndex, specAt]
  by_cases h1 : i ≥ (xs.length : Int) ∨ i < -(xs.length : Int)
  · rw [if_pos h1]
    rcases h1 with h | h
    · rw [if_pos (by omega), List.getElem?_eq_none (by omega)]
    · rw [if_neg (by omega), if_neg (by omega)]
  · rw [if_neg h1]
    by_cases h0 : i < 0
    · obtain ⟨v, hv, hg⟩ := goAt_inRange xs (i + xs.length) (by omega)
      rw [if_pos h0, wrap64_of_fits ⟨by omega, by omega⟩, hg, if_neg (by omega), if_pos (by omega), hv]
    · obtain ⟨v, hv, hg⟩ := goAt_inRange xs i (by omega)
      rw [if_neg h0, hg, if_pos (by omega), hv]

theorem collect_spec {α} (xs : List α) (hn : SizeOk xs.length) :
    ∀ (L : List Int), (∀ j ∈ L, 0 ≤ j ∧ j < xs.length) →
      collect xs L = .arr ((L.filterMap (fun j => xs[j.toNat]?)).map some) := by
  intro L
  induction L with
  | nil => intro _; rfl
  | cons j L ih =>
    intro h
    have hj := h j List.mem_cons_self
    have hk : j.toNat < xs.length := by omega
    rw [collect, arrIndex_spec xs j hn,
      ih fun j' hj' => h j' (List.mem_cons_of_mem _ hj')]
    simp only [specAt, if_pos hj.1, List.getElem?_eq_getElem hk, List.filterMap_cons, List.map_cons]

end Pangaea.IndexLemmas
