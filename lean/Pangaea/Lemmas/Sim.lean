/- The one walk over the text of the Core evaluator. `Sim n c m m'` says that `m'` is the program `m` with fuel
   `n + 1` in place of `n` in every call of the evaluator; `c` is the scope the program may write (`none`: it writes
   no scope that exists when it starts). Each of the 29 functions with fuel `n + 1` is such a program of calls with
   fuel `n`, so a derivation for fuel `n + 1` can be redone for fuel `n` (`sim_succ`), down to fuel 0 where every call
   is `outOfFuel`. Whatever the program constructors preserve therefore holds of every function at every fuel: fuel
   monotonicity (`Sim.le`, Lemmas/Fuel), the invariance principle (`Sim.stable`, Lemmas/Stable) and the footprint on
   scopes (`Sim.pres`, Lemmas/Scope) are three inductions over `Sim 0`, none of which looks at the evaluator again. -/
import Pangaea.Lemmas.Core
namespace Pangaea.Core

inductive Sim (n : Nat) : ∀ {α : Type}, Option Nat → M α → M α → Prop
  /-- the body of a call runs in the scope made for the call, so a call may stand in any scope -/
  | enterCall {α : Type} {f f' : Nat → M α} (c : Option Nat) (fenv : Nat) (ps : List String) (kwd : List (String × Val))
      (args : List Val) (kw : List (String × Val)) : (∀ e, Sim n (some e) (f e) (f' e)) →
      Sim n c (enterCall fenv ps kwd args kw >>== f) (enterCall fenv ps kwd args kw >>== f')
  /-- the body of an iterator runs in the iterator's own scope, after `recur` is bound there: the one place where a
      scope other than `c` is written (which is why the footprint `Pres` exempts the iterators' scopes) -/
  | iterBody {α : Type} {f f' : IterSt → M α} (c : Option Nat) (id : Nat) (x : String) (v : Val) :
      (∀ it, Sim n (some it.env) (f it) (f' it)) →
      Sim n c (getIter id >>== fun it => setVar it.env x v >>== fun _ => f it)
              (getIter id >>== fun it => setVar it.env x v >>== fun _ => f' it)
  | bind {α β : Type} {c : Option Nat} {m m' : M α} {f f' : α → M β} :
      Sim n c m m' → (∀ a, Sim n c (f a) (f' a)) → Sim n c (m >>== f) (m' >>== f')
  | handle {α β : Type} {c : Option Nat} {m m' : M α} {f f' : α → M β} {g g' : String → String → M β} :
      Sim n c m m' → (∀ a, Sim n c (f a) (f' a)) → (∀ k msg, Sim n c (g k msg) (g' k msg)) →
      Sim n c (handleM m f g) (handleM m' f' g')
  /-- whatever `m` with more fuel does: this is where every derivation ends at fuel 0 -/
  | fuel {α : Type} (c : Option Nat) (m : M α) : Sim n c outOfFuel m
  | pure {α : Type} (c : Option Nat) (a : α) : Sim n c (pureM a) (pureM a)
  | throw {α : Type} (c : Option Nat) (k msg : String) : Sim n c (throwM k msg : M α) (throwM k msg)
  | unsup {α : Type} (c : Option Nat) (w : String) : Sim n c (unsupported w : M α) (unsupported w)
  | getVar (c : Option Nat) (env : Nat) (x : String) : Sim n c (getVar env x) (getVar env x)
  | setVar (env : Nat) (x : String) (v : Val) : Sim n (some env) (setVar env x v) (setVar env x v)
  | allocFrame (c : Option Nat) (fr : Frame) : Sim n c (allocFrame fr) (allocFrame fr)
  | frameOuter (c : Option Nat) (env : Nat) : Sim n c (frameOuter env) (frameOuter env)
  | printLine (c : Option Nat) (l : String) : Sim n c (printLine l) (printLine l)
  | readLine (c : Option Nat) : Sim n c readLine readLine
  | newIter (c : Option Nat) (fr : Frame) (ps : List String) (kwd : List (String × Val)) (body : List Stmt) :
      Sim n c (newIter fr ps kwd body) (newIter fr ps kwd body)
  | copyIter (c : Option Nat) (it : IterSt) : Sim n c (copyIter it) (copyIter it)
  | repointIter (c : Option Nat) (id : Nat) (fr : Frame) : Sim n c (repointIter id fr) (repointIter id fr)
  | getIter (c : Option Nat) (id : Nat) : Sim n c (getIter id) (getIter id)
  | evalE e env : Sim n (some env) (evalE n e env) (evalE (n + 1) e env)
  | evalOpt e env : Sim n (some env) (evalOpt n e env) (evalOpt (n + 1) e env)
  | evalRecv e env : Sim n (some env) (evalRecv n e env) (evalRecv (n + 1) e env)
  | evalElems es env : Sim n (some env) (evalElems n es env) (evalElems (n + 1) es env)
  | evalArgs es env acc kw : Sim n (some env) (evalArgs n es env acc kw) (evalArgs (n + 1) es env acc kw)
  | evalKws ks env acc : Sim n (some env) (evalKws n ks env acc) (evalKws (n + 1) ks env acc)
  | evalPairs ps env acc : Sim n (some env) (evalPairs n ps env acc) (evalPairs (n + 1) ps env acc)
  | evalEmbedded es env acc : Sim n (some env) (evalEmbedded n es env acc) (evalEmbedded (n + 1) es env acc)
  | evalPieces ps env acc : Sim n (some env) (evalPieces n ps env acc) (evalPieces (n + 1) ps env acc)
  | evalStmts ss env : Sim n (some env) (evalStmts n ss env) (evalStmts (n + 1) ss env)
  | stmtLoop ss env v y d : Sim n (some env) (stmtLoop n ss env v y d) (stmtLoop (n + 1) ss env v y d)
  | runDefers ds env : Sim n (some env) (runDefers n ds env) (runDefers (n + 1) ds env)
  | evalStmt st env : Sim n (some env) (evalStmt n st env) (evalStmt (n + 1) st env)
  -- the functions below are given no scope to write: a call, an iterator step, a chain may stand in any
  | callVal c f args kw : Sim n c (callVal n f args kw) (callVal (n + 1) f args kw)
  | callProp c r nm args kw env : Sim n c (callProp n r nm args kw env) (callProp (n + 1) r nm args kw env)
  | callPropQuiet c r nm args env : Sim n c (callPropQuiet n r nm args env) (callPropQuiet (n + 1) r nm args env)
  | builtinCall c nm r args kw env : Sim n c (builtinCall n nm r args kw env) (builtinCall (n + 1) nm r args kw env)
  | iterNext c id : Sim n c (iterNext n id) (iterNext (n + 1) id)
  | propAdd c a r nm args kw env : Sim n c (propAdd n a r nm args kw env) (propAdd (n + 1) a r nm args kw env)
  | srcOf c v : Sim n c (srcOf n v) (srcOf (n + 1) v)
  | nextElem c src : Sim n c (nextElem n src) (nextElem (n + 1) src)
  | propChain c m a r ca nm args kw env :
      Sim n c (propChain n m a r ca nm args kw env) (propChain (n + 1) m a r ca nm args kw env)
  | propListLoop c a src nm args kw env acc :
      Sim n c (propListLoop n a src nm args kw env acc) (propListLoop (n + 1) a src nm args kw env acc)
  | propReduceLoop c a src acc nm args kw env :
      Sim n c (propReduceLoop n a src acc nm args kw env) (propReduceLoop (n + 1) a src acc nm args kw env)
  | litCallOne c f r env : Sim n c (litCallOne n f r env) (litCallOne (n + 1) f r env)
  | litAdd c a f r env : Sim n c (litAdd n a f r env) (litAdd (n + 1) a f r env)
  | litChain c m a r ca f env : Sim n c (litChain n m a r ca f env) (litChain (n + 1) m a r ca f env)
  | litListLoop c a src f env acc : Sim n c (litListLoop n a src f env acc) (litListLoop (n + 1) a src f env acc)
  | litReduceLoop c a src acc f env : Sim n c (litReduceLoop n a src acc f env) (litReduceLoop (n + 1) a src acc f env)

-- with these opaque a constructor of `Sim` that does not fit a goal is rejected at the head symbol
attribute [local irreducible] pureM throwM unsupported outOfFuel bindM handleM getVar setVar allocFrame frameOuter getIter
  printLine readLine newIter copyIter repointIter enterCall

/-- builds a derivation of `Sim n c m m'` along the shape of `m`: the constructor that fits, else a case split on
    the `match` in front (`unfold` leaves `k + 1 = Nat.succ _` behind) -/
macro "walk" : tactic => `(tactic| repeat' first
  | intro _
  | cases ‹_ + 1 = Nat.succ _›
  | constructor
  | split
  | dsimp only)

theorem sim_intBin (n : Nat) (c : Option Nat) (name : String) (a : Int) (b : Val) : Sim n c (intBin name a b) (intBin name a b) := by
  unfold intBin; walk

theorem sim_pureBuiltin (n : Nat) (c : Option Nat) (name : String) (recv : Val) (args : List Val) :
    Sim n c (pureBuiltin name recv args) (pureBuiltin name recv args) := by
  unfold pureBuiltin; repeat' first | exact sim_intBin .. | walk

/-- Each function is unfolded on both sides and walked; where Lemmas/Core has an equation that turns a raw result match
    into `handleM`, that equation stands for the body. -/
theorem sim_succ {n : Nat} {α : Type} {c : Option Nat} {m m' : M α} (h : Sim (n + 1) c m m') : Sim n c m m' := by
  induction h with
  | evalE e env =>
    -- the equations of `evalE` are per pattern, and `ifE`, `func`, `iter` have nested ones
    cases e with
    | ifE _ _ els => cases els <;> (rw [evalE, evalE]; walk)
    | func f => cases f; rw [evalE, evalE]; walk
    | iter f => cases f; rw [evalE, evalE]; walk
    | _ => rw [evalE, evalE]; walk
  | evalOpt => unfold Core.evalOpt; walk
  | evalRecv => unfold Core.evalRecv; walk
  | evalElems => unfold Core.evalElems; walk
  | evalArgs => unfold Core.evalArgs; walk
  | evalKws => unfold Core.evalKws; walk
  | evalPairs => unfold Core.evalPairs; walk
  | evalEmbedded => unfold Core.evalEmbedded; walk
  | evalPieces => unfold Core.evalPieces; walk
  | evalStmts => simp only [evalStmts_succ]; walk
  | stmtLoop ss => cases ss <;> (first | simp only [stmtLoop_cons] | unfold Core.stmtLoop) <;> walk
  | runDefers => unfold Core.runDefers; walk
  | evalStmt => unfold Core.evalStmt; walk
  | callVal => unfold Core.callVal; walk
  | callProp => unfold Core.callProp; walk
  | callPropQuiet => unfold Core.callPropQuiet; walk
  | builtinCall => unfold Core.builtinCall; repeat' first | exact sim_pureBuiltin .. | walk
  | iterNext => unfold Core.iterNext; walk
  | propAdd _ a =>
    cases a <;> (first | simp only [propAdd_thoughtful] | unfold Core.propAdd) <;> walk
  | srcOf => unfold Core.srcOf; walk
  | nextElem _ src =>
    cases src with
    | elems xs => cases xs <;> (simp only [Core.nextElem]; walk)
    | stdin => simp only [Core.nextElem]; walk
    | iter => simp only [nextElem_iter]; walk
  | propChain => unfold Core.propChain; walk
  | propListLoop => unfold Core.propListLoop; walk
  | propReduceLoop => unfold Core.propReduceLoop; walk
  | litCallOne => unfold Core.litCallOne; walk
  | litAdd _ a =>
    cases a <;> (first | simp only [litAdd_thoughtful] | unfold Core.litAdd) <;> walk
  | litChain => unfold Core.litChain; walk
  | litListLoop => unfold Core.litListLoop; walk
  | litReduceLoop _ a =>
    -- `rw`, once on each side: the right-hand side of the equation contains the loop with fuel `n + 1` again
    cases a <;> (first | rw [litReduceLoop_thoughtful, litReduceLoop_thoughtful] | unfold Core.litReduceLoop) <;> walk
  | enterCall _ _ _ _ _ _ _ ih => exact .enterCall _ _ _ _ _ _ ih
  | iterBody _ _ _ _ _ ih => exact .iterBody _ _ _ _ ih
  | bind _ _ ih1 ih2 => exact .bind ih1 ih2
  | handle _ _ _ ih1 ih2 ih3 => exact .handle ih1 ih2 ih3
  | _ => constructor

end Pangaea.Core
